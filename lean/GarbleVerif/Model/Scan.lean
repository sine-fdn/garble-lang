/-!
# L0 — the scanner (`scan.rs`) and the error renderer (`lib.rs: prettify_meta`)

The input is the list of the program's characters (`str::chars`). The scanner is written with
well-founded recursion on the length of the remaining input: Lean accepts the definitions only
together with the proof that every iteration of the main loop and of the block-comment loop
consumes input (or stops), which is the termination half of C07 for `scan.rs`.

A token is represented by the text of its `Debug` form (`UnsignedNum(5, U8)`), which is what the
correspondence check compares; locations are `(line, column)` pairs exactly as in `MetaInfo`.
-/
namespace GV
namespace Scan

structure Pos where
  line : Nat
  col : Nat
deriving DecidableEq, Repr, Inhabited

/-- lexicographic order on `(line, column)`, the order of `MetaInfo` positions -/
def Pos.le (a b : Pos) : Prop := a.line < b.line ∨ (a.line = b.line ∧ a.col ≤ b.col)

instance (a b : Pos) : Decidable (Pos.le a b) := by unfold Pos.le; exact inferInstance

structure Meta where
  start : Pos
  stop : Pos
deriving DecidableEq, Repr, Inhabited

inductive ErrKind where
  | unexpectedCharacter | invalidUnsignedNum | invalidSignedNum
deriving DecidableEq, Repr

def ErrKind.name : ErrKind → String
  | .unexpectedCharacter => "UnexpectedCharacter"
  | .invalidUnsignedNum => "InvalidUnsignedNum"
  | .invalidSignedNum => "InvalidSignedNum"

/-- the mutable fields of `Scanner` (tokens and errors newest first) -/
structure St where
  tokens : List (String × Meta)
  errors : List (ErrKind × Meta)
  line : Nat
  col : Nat
  start : Pos

def St.init : St := { tokens := [], errors := [], line := 0, col := 0, start := ⟨0, 0⟩ }

/-- the column increments of `n` calls of `advance()` -/
def advN (s : St) (n : Nat) : St := { s with col := s.col + n }

/-- `push_token` -/
def pushToken (s : St) (t : String) : St :=
  let col := if s.start = ⟨s.line, s.col⟩ then s.col + 1 else s.col
  let e : Pos := ⟨s.line, col⟩
  { s with col := col, start := e, tokens := (t, ⟨s.start, e⟩) :: s.tokens }

/-- `push_error` -/
def pushError (s : St) (k : ErrKind) : St :=
  let p : Pos := ⟨s.line, s.col⟩
  { s with errors := (k, ⟨p, p⟩) :: s.errors }

def isDigit (c : Char) : Bool := c.isDigit
def isAlnum (c : Char) : Bool := c.isLower || c.isUpper || c == '_' || c.isDigit

/-- the longest prefix whose characters satisfy `p`, and the rest -/
def spanP (p : Char → Bool) : List Char → List Char × List Char
  | [] => ([], [])
  | c :: cs => if p c then ((c :: (spanP p cs).1), (spanP p cs).2) else ([], c :: cs)

/-- operator characters: the continuations the scanner tries, in order, and the token each gives -/
def opList : List (Char × List (List Char × String)) :=
  [('(', [([], "LeftParen")]), (')', [([], "RightParen")]),
   ('{', [([], "LeftBrace")]), ('}', [([], "RightBrace")]),
   ('[', [([], "LeftBracket")]), (']', [([], "RightBracket")]),
   (',', [([], "Comma")]), (';', [([], "Semicolon")]),
   ('.', [(['.', '='], "DoubleDotEquals"), (['.'], "DoubleDot"), ([], "Dot")]),
   ('^', [(['='], "BitXorAssign"), ([], "Caret")]),
   ('&', [(['&'], "DoubleAmpersand"), (['='], "BitAndAssign"), ([], "Ampersand")]),
   ('|', [(['|'], "DoubleBar"), (['='], "BitOrAssign"), ([], "Bar")]),
   ('!', [(['='], "BangEq"), ([], "Bang")]),
   ('=', [(['='], "DoubleEq"), (['>'], "FatArrow"), ([], "Eq")]),
   (':', [([':'], "DoubleColon"), ([], "Colon")]),
   ('>', [(['>', '='], "ShrAssign"), (['>'], "DoubleGreaterThan"), (['='], "GreaterThanEquals"), ([], "GreaterThan")]),
   ('<', [(['<', '='], "ShlAssign"), (['<'], "DoubleLessThan"), (['='], "LessThanEquals"), ([], "LessThan")]),
   ('%', [(['='], "RemAssign"), ([], "Percent")]),
   ('*', [(['='], "MulAssign"), ([], "Star")]),
   ('+', [(['='], "AddAssign"), ([], "Plus")])]

def opTable (c : Char) : Option (List (List Char × String)) :=
  (opList.find? (fun e => e.1 == c)).map (·.2)

/-- the nested `next_matches` tests of one operator character -/
def matchOp : List (List Char × String) → List Char → St → List Char × St
  | [], rest, s => (rest, s)
  | (suf, name) :: more, rest, s =>
    if suf.isPrefixOf rest then (rest.drop suf.length, pushToken (advN s suf.length) name)
    else matchOp more rest s

/-! ### block comments -/

/-- third and fourth test of the block-comment loop: a newline, or any character except `*` and `/`
(at the end of the input `advance()` still increments the column) -/
def blockIter3 : List Char → Nat → Nat → Nat → List Char × Nat × Nat × Nat
  | [], level, line, col => ([], level, line, col + 1)
  | c :: r, level, line, col =>
    if c = '\n' then (r, level, line + 1, 0)
    else if c = '*' ∨ c = '/' then (c :: r, level, line, col)
    else (r, level, line, col + 1)

/-- second test: `*` then `/` closes a level; a lone `*` is consumed and the later tests run -/
def blockIter2 : List Char → Nat → Nat → Nat → List Char × Nat × Nat × Nat
  | [], level, line, col => blockIter3 [] level line col
  | c :: r, level, line, col =>
    if c = '*' then
      match r with
      | [] => blockIter3 [] level line (col + 1)
      | d :: r2 => if d = '/' then (r2, level - 1, line, col + 2) else blockIter3 (d :: r2) level line (col + 1)
    else blockIter3 (c :: r) level line col

/-- one iteration of the block-comment loop: the four tests run in sequence on the input as the
earlier ones left it (a lone `/` or `*` is consumed by its test even when the test then fails) -/
def blockIter : List Char → Nat → Nat → Nat → List Char × Nat × Nat × Nat
  | [], level, line, col => blockIter2 [] level line col
  | c :: r, level, line, col =>
    if c = '/' then
      match r with
      | [] => blockIter2 [] level line (col + 1)
      | d :: r2 => if d = '*' then (r2, level + 1, line, col + 2) else blockIter2 (d :: r2) level line (col + 1)
    else blockIter2 (c :: r) level line col

theorem blockIter3_length (cs : List Char) (level line col : Nat) :
    (blockIter3 cs level line col).1.length ≤ cs.length ∧
    (cs ≠ [] → cs.head? ≠ some '*' → cs.head? ≠ some '/' →
      (blockIter3 cs level line col).1.length < cs.length) := by
  fun_cases blockIter3 cs level line col
  · simp
  · simp
  · refine ⟨Nat.le_refl _, fun _ h1 h2 => ?_⟩
    rcases ‹_ ∨ _› with rfl | rfl
    · exact absurd rfl h1
    · exact absurd rfl h2
  · simp

/- In `blockIter2` and `blockIter` a test that consumed its first character passes at most the rest
on; a test that did not fire passes on an input that the next test shortens. -/
theorem blockIter2_length (cs : List Char) (level line col : Nat) :
    (blockIter2 cs level line col).1.length ≤ cs.length ∧
    (cs ≠ [] → cs.head? ≠ some '/' → (blockIter2 cs level line col).1.length < cs.length) := by
  have h3 := blockIter3_length
  fun_cases blockIter2 cs level line col
  · exact ⟨(h3 ..).1, fun h => absurd rfl h⟩
  · exact ⟨Nat.le_succ_of_le (h3 ..).1, fun _ _ => Nat.lt_succ_of_le (h3 ..).1⟩
  · simp; omega
  · exact ⟨Nat.le_succ_of_le (h3 ..).1, fun _ _ => Nat.lt_succ_of_le (h3 ..).1⟩
  · exact ⟨(h3 ..).1, fun h1 h2 => (h3 ..).2 h1 (by simpa using ‹_›) h2⟩

theorem blockIter_length (cs : List Char) (level line col : Nat) :
    (blockIter cs level line col).1.length ≤ cs.length ∧
    (cs ≠ [] → (blockIter cs level line col).1.length < cs.length) := by
  have h2 := blockIter2_length
  fun_cases blockIter cs level line col
  · exact ⟨(h2 ..).1, fun h => absurd rfl h⟩
  · exact ⟨Nat.le_succ_of_le (h2 ..).1, fun _ => Nat.lt_succ_of_le (h2 ..).1⟩
  · simp; omega
  · exact ⟨Nat.le_succ_of_le (h2 ..).1, fun _ => Nat.lt_succ_of_le (h2 ..).1⟩
  · exact ⟨(h2 ..).1, fun h => (h2 ..).2 h (by simpa using ‹_›)⟩

/-- the block-comment loop (with the end-of-input exit): remaining input, line, column -/
def blockLoop (cs : List Char) (level line col : Nat) : List Char × Nat × Nat :=
  let r := blockIter cs level line col
  if r.2.1 = 0 ∨ r.1 = [] then (r.1, r.2.2.1, r.2.2.2)
  else blockLoop r.1 r.2.1 r.2.2.1 r.2.2.2
termination_by cs.length
decreasing_by
  rename_i h
  have hl := blockIter_length cs level line col
  have hne : cs ≠ [] := by
    intro hc
    subst hc
    have := hl.1
    simp at this
    exact h (Or.inr this)
  exact hl.2 hne

/-! ### numbers -/

def digitsVal (ds : List Char) : Nat := ds.foldl (fun a d => 10 * a + (d.toNat - 48)) 0

def unsignedToken (n : Nat) (suffix : String) : Option String :=
  if suffix = "i8" ∧ n ≤ 127 then some s!"SignedNum({n}, I8)"
  else if suffix = "i16" ∧ n ≤ 32767 then some s!"SignedNum({n}, I16)"
  else if suffix = "i32" ∧ n ≤ 2147483647 then some s!"SignedNum({n}, I32)"
  else if suffix = "i64" ∧ n ≤ 9223372036854775807 then some s!"SignedNum({n}, I64)"
  else if suffix = "usize" ∧ n ≤ 4294967295 then some s!"UnsignedNum({n}, Usize)"
  else if suffix = "u8" ∧ n ≤ 255 then some s!"UnsignedNum({n}, U8)"
  else if suffix = "u16" ∧ n ≤ 65535 then some s!"UnsignedNum({n}, U16)"
  else if suffix = "u32" ∧ n ≤ 4294967295 then some s!"UnsignedNum({n}, U32)"
  else if suffix = "u64" then some s!"UnsignedNum({n}, U64)"
  else if suffix = "" then some s!"UnsignedNum({n}, Unspecified)"
  else none

def signedToken (n : Int) (suffix : String) : Option String :=
  if suffix = "i8" ∧ -128 ≤ n ∧ n ≤ 127 then some s!"SignedNum({n}, I8)"
  else if suffix = "i16" ∧ -32768 ≤ n ∧ n ≤ 32767 then some s!"SignedNum({n}, I16)"
  else if suffix = "i32" ∧ -2147483648 ≤ n ∧ n ≤ 2147483647 then some s!"SignedNum({n}, I32)"
  else if suffix = "i64" then some s!"SignedNum({n}, I64)"
  else if suffix = "" then some s!"SignedNum({n}, Unspecified)"
  else none

/-- a number that starts with the digit `c` -/
def scanUnsigned (c : Char) (rest : List Char) (s : St) : List Char × St :=
  let ds := spanP isDigit rest
  let s1 := advN s ds.1.length
  let n := digitsVal (c :: ds.1)
  if n < 2 ^ 64 then
    let suf := spanP isAlnum ds.2
    let s2 := advN s1 suf.1.length
    match unsignedToken n (String.ofList suf.1) with
    | some t => (suf.2, pushToken s2 t)
    | none => (suf.2, pushToken (pushError s2 .invalidUnsignedNum) s!"UnsignedNum({n}, U64)")
  else (ds.2, pushError s1 .invalidUnsignedNum)

/-- `-` followed by at least one digit -/
def scanSigned (rest : List Char) (s : St) : List Char × St :=
  let ds := spanP isDigit rest
  let s1 := advN s ds.1.length
  let n := digitsVal ds.1
  if n ≤ 2 ^ 63 then
    let suf := spanP isAlnum ds.2
    let s2 := advN s1 suf.1.length
    match signedToken (-(n : Int)) (String.ofList suf.1) with
    | some t => (suf.2, pushToken s2 t)
    | none => (suf.2, pushToken (pushError s2 .invalidUnsignedNum) s!"SignedNum({-(n : Int)}, I64)")
  else (ds.2, pushError s1 .invalidSignedNum)

def keyword (w : String) : String :=
  if w = "const" then "KeywordConst" else if w = "struct" then "KeywordStruct"
  else if w = "enum" then "KeywordEnum" else if w = "fn" then "KeywordFn"
  else if w = "let" then "KeywordLet" else if w = "if" then "KeywordIf"
  else if w = "else" then "KeywordElse" else if w = "mut" then "KeywordMut"
  else if w = "match" then "KeywordMatch" else if w = "as" then "KeywordAs"
  else if w = "pub" then "KeywordPub" else if w = "for" then "KeywordFor"
  else if w = "in" then "KeywordIn" else "Identifier(\"" ++ w ++ "\")"

/-! ### the main loop -/

/-- the body of the main loop for the character `c` (before the final `column += 1`) -/
def scanOne (c : Char) (rest : List Char) (s : St) : List Char × St :=
  if c = ' ' ∨ c = '\r' ∨ c = '\t' then (rest, { s with start := ⟨s.line, s.col⟩ })
  else if c = '\n' then (rest, { s with line := s.line + 1, col := 0 })
  else match opTable c with
  | some opts => matchOp opts rest s
  | none =>
    if c = '/' then
      match rest with
      | '=' :: r => (r, pushToken (advN s 1) "DivAssign")
      | '/' :: r =>
        let sp := spanP (fun c => c != '\n') r
        (sp.2, advN s (1 + sp.1.length))
      | '*' :: r =>
        let b := blockLoop r 1 s.line (s.col + 1)
        (b.1, { s with line := b.2.1, col := b.2.2 })
      | _ => (rest, pushToken s "Slash")
    else if c = '-' then
      match rest with
      | '=' :: r => (r, pushToken (advN s 1) "SubAssign")
      | '>' :: r => (r, pushToken (advN s 1) "Arrow")
      | d :: _ => if isDigit d then scanSigned rest s else (rest, pushToken s "Minus")
      | [] => (rest, pushToken s "Minus")
    else if isDigit c then scanUnsigned c rest s
    else if isAlnum c then
      let sp := spanP isAlnum rest
      (sp.2, pushToken (advN s sp.1.length) (keyword (String.ofList (c :: sp.1))))
    else (rest, pushError s .unexpectedCharacter)

theorem spanP_length (p : Char → Bool) (cs : List Char) : (spanP p cs).2.length ≤ cs.length := by
  induction cs with
  | nil => exact Nat.le_refl _
  | cons c cs ih =>
    simp only [spanP]
    split
    · exact Nat.le_succ_of_le ih
    · exact Nat.le_refl _

theorem matchOp_length (opts : List (List Char × String)) (rest : List Char) (s : St) :
    (matchOp opts rest s).1.length ≤ rest.length := by
  fun_induction matchOp opts rest s with
  | case1 => exact Nat.le_refl _
  | case2 => simp
  | case3 _ _ _ _ _ _ ih => exact ih

theorem blockLoop_length (cs : List Char) (level line col : Nat) :
    (blockLoop cs level line col).1.length ≤ cs.length := by
  fun_induction blockLoop cs level line col with
  | case1 cs level line col r h =>
    exact (blockIter_length cs level line col).1
  | case2 cs level line col r h ih =>
    exact Nat.le_trans ih (blockIter_length cs level line col).1

theorem scanUnsigned_length (c : Char) (rest : List Char) (s : St) :
    (scanUnsigned c rest s).1.length ≤ rest.length := by
  have h1 := spanP_length isDigit rest
  have h2 := spanP_length isAlnum (spanP isDigit rest).2
  fun_cases scanUnsigned c rest s
  · exact Nat.le_trans h2 h1
  · exact Nat.le_trans h2 h1
  · exact h1

theorem scanSigned_length (rest : List Char) (s : St) :
    (scanSigned rest s).1.length ≤ rest.length := by
  have h1 := spanP_length isDigit rest
  have h2 := spanP_length isAlnum (spanP isDigit rest).2
  fun_cases scanSigned rest s
  · exact Nat.le_trans h2 h1
  · exact Nat.le_trans h2 h1
  · exact h1

/-- the body of the main loop never gives input back -/
theorem scanOne_length (c : Char) (rest : List Char) (s : St) :
    (scanOne c rest s).1.length ≤ rest.length := by
  fun_cases scanOne c rest s
  -- a token of one or two characters takes nothing, or one more character, from `rest`
  all_goals try simp only [List.length_cons, Nat.le_refl, Nat.le_add_right]
  · exact matchOp_length ..
  · exact Nat.le_succ_of_le (spanP_length ..)
  · exact Nat.le_succ_of_le (blockLoop_length ..)
  · exact scanSigned_length ..
  · exact scanUnsigned_length ..
  · exact spanP_length ..

/-- `Scanner::scan`'s main loop -/
def scanLoop (cs : List Char) (s : St) : St :=
  match cs with
  | [] => s
  | c :: rest =>
    let r := scanOne c rest s
    scanLoop r.1 { r.2 with col := r.2.col + 1 }
termination_by cs.length
decreasing_by
  have := scanOne_length c rest s
  simp only [List.length_cons]; omega

inductive Result where
  | ok (tokens : List (String × Meta))
  | error (errors : List (ErrKind × Meta))

/-- `scan(prg)` -/
def scan (cs : List Char) : Result :=
  let s := scanLoop cs St.init
  if s.errors.isEmpty then .ok s.tokens.reverse else .error s.errors.reverse

/-! ### `prettify_meta` -/

/-- pieces of the text between `\n`s (never empty) -/
def splitNL : List Char → List (List Char)
  | [] => [[]]
  | c :: cs =>
    if c = '\n' then [] :: splitNL cs
    else match splitNL cs with
      | p :: ps => (c :: p) :: ps
      | [] => [[c]]

def stripCR (l : List Char) : List Char :=
  match l.getLast? with
  | some '\r' => l.dropLast
  | _ => l

/-- `str::lines()`: a final empty piece is not a line; a `\r` directly before the `\n` is not part of
the line (the last piece, which no `\n` follows, keeps a trailing `\r`) -/
def rustLines (cs : List Char) : List (List Char) :=
  let ps := splitNL cs
  ps.dropLast.map stripCR ++ (match ps.getLast? with
    | some [] => []
    | some p => [p]
    | none => [])

def utf8Len (l : List Char) : Nat := (l.map (fun c => c.utf8Size)).sum

def padLeft4 (s : String) : String := String.ofList (List.replicate (4 - s.length) ' ') ++ s

/-- the body of the `for l in ..` loop for line `l`; `none` = `lines[l]` out of range (a panic) -/
def renderLine (lines : List (List Char)) (m : Meta) (l : Int) : Option String :=
  let lineStart : Int := m.start.line
  let lineEnd : Int := m.stop.line
  let hl : Bool := l ≥ lineStart ∧ (l < lineEnd ∨ (l = lineEnd ∧ m.stop.col > 0))
  let shown : String :=
    if l ≥ 0 ∧ l.toNat < lines.length then
      let text := String.ofList (lines.getD l.toNat [])
      if hl then padLeft4 (toString (l + 1)) ++ " > | " ++ text ++ "\n"
      else "       | " ++ text ++ "\n"
    else ""
  if hl then
    let colStart := if l = lineStart then m.start.col else 0
    let colEnd : Option Nat :=
      if l = lineEnd then some m.stop.col
      else if l ≥ 0 ∧ l.toNat < lines.length then some (utf8Len (lines.getD l.toNat []))
      else none
    match colEnd with
    | none => none
    | some colEnd =>
      some (shown ++ "     > | " ++ String.ofList (List.replicate colStart ' ')
        ++ String.ofList (List.replicate (colEnd - colStart) '^') ++ "\n")
  else some shown

def renderLines (lines : List (List Char)) (m : Meta) : List Int → Option String
  | [] => some ""
  | l :: ls =>
    match renderLine lines m l, renderLines lines m ls with
    | some a, some b => some (a ++ b)
    | _, _ => none

/-- the integers `lo, lo+1, …` (`n` of them) -/
def intRange (lo : Int) : Nat → List Int
  | 0 => []
  | n + 1 => lo :: intRange (lo + 1) n

/-- `prettify_meta(prg, meta)` -/
def prettifyMeta (prg : List Char) (m : Meta) : Option String :=
  if prg.isEmpty then some "" else
  let lo : Int := (m.start.line : Int) - 2
  let hi : Int := (m.stop.line : Int) + 2
  renderLines (rustLines prg) m (intRange lo (hi - lo).toNat)

end Scan
end GV
