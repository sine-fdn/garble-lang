import GarbleVerif.Proofs.BitCore
import GarbleVerif.Proofs.Encoding
/-! Aggregates on wires: `VRel` at a tuple, struct or array type;
`ArgsRel` / `FArgsRel` (the components of a literal and their wires); component `i` is a slice `pre ++ enc ++ post` of the
encoding, behind the wires of the components before it, which is what reading and replacing it rests on. -/
namespace GV
namespace Bit
open Src

theorem VTy.toTy_ofTy (t : Ty) : (VTy.ofTy t).toTy = t := by
  cases t with
  | tuple ts => cases ts <;> rfl
  | _ => rfl

theorem STy.toTy_ofTy (t : STy) : VTy.ofTy t.toTy = .s t := by
  cases t <;> rfl

/-- whatever the representation of the type: the value has the type and the wires carry its encoding -/
theorem VRel.hasType_encode {t : VTy} {v : Val} {bs : List Bool} (h : VRel t v bs) :
    v.hasType t.toTy = true ∧ bs = v.encode t.toTy := by
  cases t with
  | s st => exact Rel.hasType_encode h
  | unit =>
    obtain ⟨rfl, rfl⟩ := h
    exact ⟨rfl, rfl⟩
  | agg t => exact h

theorem Rel.of_hasType {t : STy} {v : Val} (h : v.hasType t.toTy = true) : Rel t v (v.encode t.toTy) := by
  cases t with
  | bool => cases v <;> first | contradiction | exact rfl
  | int k => cases v <;> first | contradiction | exact ⟨h, rfl⟩

/-- and back: a well-typed value with its encoding is related at the canonical representation of the type -/
theorem VRel.of_hasType {t : Ty} {v : Val} (h : v.hasType t = true) : VRel (VTy.ofTy t) v (v.encode t) := by
  cases t with
  | bool => exact Rel.of_hasType (t := .bool) h
  | int k => exact Rel.of_hasType (t := .int k) h
  | tuple ts =>
    cases ts with
    | nil =>
      obtain ⟨vs, rfl, h⟩ := Val.hasType_tuple h
      cases vs
      · exact ⟨rfl, rfl⟩
      · contradiction
    | cons t r => exact ⟨h, rfl⟩
  | array e n => exact ⟨h, rfl⟩
  | struct n fs => exact ⟨h, rfl⟩
  | enum n vs => exact ⟨h, rfl⟩

theorem VRel.length {t : VTy} {v : Val} {bs : List Bool} (h : VRel t v bs) : bs.length = t.toTy.size := by
  obtain ⟨h1, rfl⟩ := h.hasType_encode
  exact Val.encode_length v _ h1

theorem EnvRel.append {a : Src.Env} {b : BEnv} {c : Src.Env} {d : BEnv} (h1 : EnvRel a b) (h2 : EnvRel c d) :
    EnvRel (a ++ c) (b ++ d) := by
  induction h1 with
  | nil => exact h2
  | cons hr _ ih => exact EnvRel.cons hr ih

/-- argument values (components of a tuple, elements of an array) and their wires -/
def ArgsRel : List Val → List (VTy × List Bool) → Prop
  | [], [] => True
  | v :: vs, (t, bs) :: rest => VRel t v bs ∧ ArgsRel vs rest
  | _, _ => False

/-- a tuple literal: the components' wires one after the other are the encoding of the tuple -/
theorem ArgsRel.tuple : ∀ (vs : ValList) (args : List (VTy × List Bool)), ArgsRel vs.toList args →
    vs.haveTypes (TyList.ofList (args.map (·.1.toTy))) = true ∧
      args.flatMap (·.2) = vs.encodeEach (TyList.ofList (args.map (·.1.toTy)))
  | .nil, [], _ => ⟨rfl, rfl⟩
  | .nil, _ :: _, h => h.elim
  | .cons _ _, [], h => h.elim
  | .cons v vs, (t, bs) :: rest, h => by
    obtain ⟨h1, rfl⟩ := h.1.hasType_encode
    obtain ⟨h3, h4⟩ := ArgsRel.tuple vs rest h.2
    simp only [List.map_cons, TyList.ofList, ValList.haveTypes, h1, h3, Bool.and_self, List.flatMap_cons,
      ValList.encodeEach, h4, true_and]

theorem _root_.GV.TyList.ofList_toList : ∀ ts : TyList, TyList.ofList ts.toList = ts
  | .nil => rfl
  | .cons t ts => by rw [TyList.toList, TyList.ofList, TyList.ofList_toList ts]

theorem types_toTy {vs : List (VTy × List Bool)} {ts : TyList} (h : vs.map (·.1) = ts.toList.map VTy.ofTy) :
    vs.map (·.1.toTy) = ts.toList := by
  simpa [Function.comp_def, VTy.toTy_ofTy] using congrArg (List.map VTy.toTy) h

/-- arguments of prescribed types (the fields of an enum variant) -/
theorem ArgsRel.typed : ∀ (vs : ValList) (ts : TyList) (args : List (VTy × List Bool)), ArgsRel vs.toList args →
    args.map (·.1) = ts.toList.map VTy.ofTy →
    vs.haveTypes ts = true ∧ args.flatMap (·.2) = vs.encodeEach ts := by
  intro vs ts args h ht
  simpa only [types_toTy ht, TyList.ofList_toList] using ArgsRel.tuple vs args h

/-- an array literal: elements of one type -/
theorem ArgsRel.array (t : VTy) : ∀ (vs : ValList) (args : List (VTy × List Bool)), ArgsRel vs.toList args →
    (∀ x, x ∈ args → x.1 = t) →
    vs.length = args.length ∧ vs.allHaveType t.toTy = true ∧ args.flatMap (·.2) = vs.encodeAll t.toTy
  | .nil, [], _, _ => ⟨rfl, rfl, rfl⟩
  | .nil, _ :: _, h, _ => h.elim
  | .cons _ _, [], h, _ => h.elim
  | .cons v vs, (t', bs) :: rest, h, hall => by
    cases hall _ List.mem_cons_self
    obtain ⟨h1, rfl⟩ := h.1.hasType_encode
    obtain ⟨h3, h4, h5⟩ := ArgsRel.array t' vs rest h.2 (fun x hx => hall x (List.mem_cons_of_mem _ hx))
    simp only [ValList.length, h3, List.length_cons, ValList.allHaveType, h1, h4, Bool.and_self, List.flatMap_cons,
      ValList.encodeAll, h5, true_and]

/-- field values and their wires, name by name -/
def FArgsRel : FieldVals → List (String × VTy × List Bool) → Prop
  | .nil, [] => True
  | .cons n v r, (n', t, bs) :: rest => n = n' ∧ VRel t v bs ∧ FArgsRel r rest
  | _, _ => False

theorem FArgsRel.struct : ∀ (fvs : FieldVals) (args : List (String × VTy × List Bool)), FArgsRel fvs args →
    fvs.haveTypes (Fields.ofList (args.map fun x => (x.1, x.2.1.toTy))) = true ∧
      args.flatMap (·.2.2) = fvs.encodeEach (Fields.ofList (args.map fun x => (x.1, x.2.1.toTy)))
  | .nil, [], _ => ⟨rfl, rfl⟩
  | .nil, _ :: _, h => h.elim
  | .cons _ _ _, [], h => h.elim
  | .cons n v r, (n', t, bs) :: rest, h => by
    obtain ⟨rfl, hv, hr⟩ := h
    obtain ⟨h1, rfl⟩ := hv.hasType_encode
    obtain ⟨h3, h4⟩ := FArgsRel.struct r rest hr
    simp only [List.map_cons, Fields.ofList, FieldVals.haveTypes, beq_self_eq_true, h1, h3, Bool.and_self,
      List.flatMap_cons, FieldVals.encodeEach, h4, true_and]

theorem encodeAll_replicate (n : Nat) (v : Val) (t : Ty) :
    (ValList.replicate n v).encodeAll t = (List.replicate n (v.encode t)).flatten := by
  induction n with
  | zero => rfl
  | succ n ih => simp [ValList.replicate, ValList.encodeAll, List.replicate_succ, ih]

theorem rangeVals_spec (k : IntTy) : ∀ (n lo : Nat), (n = 0 ∨ (k.inRange (lo : Int) = true ∧ k.inRange ((lo + n : Nat) - 1 : Int) = true)) →
    (rangeVals' lo n).length = n ∧ (rangeVals' lo n).allHaveType (.int k) = true ∧
      (rangeVals' lo n).encodeAll (.int k) = ((List.range n).map fun j => intToBits ((lo + j : Nat) : Int) k.bits).flatten
  | 0, lo, _ => ⟨rfl, rfl, rfl⟩
  | n + 1, lo, h => by
    have hr := h.resolve_left (Nat.succ_ne_zero n)
    obtain ⟨h1, h2, h3⟩ := rangeVals_spec k n (lo + 1) <| (Nat.eq_zero_or_pos n).imp_right fun hp => by
      simp only [inRange_iff] at hr ⊢
      omega
    refine ⟨congrArg (· + 1) h1, by simp only [rangeVals', ValList.allHaveType, Val.hasType, hr.1, h2, Bool.and_self], ?_⟩
    simp only [rangeVals', ValList.encodeAll, Val.encode, h3, List.range_succ_eq_map, List.map_cons, List.flatten_cons,
      List.map_map, Function.comp_def, Nat.add_zero, Nat.succ_eq_add_one, Nat.add_assoc, Nat.add_comm 1]


theorem slice_mid {α} {pre x post : List α} {off sz : Nat} (h1 : pre.length = off) (h2 : x.length = sz) :
    ((pre ++ x ++ post).drop off).take sz = x := by
  rw [List.append_assoc, List.drop_left' h1, List.take_left' h2]

theorem splice_mid {α} {pre x post : List α} {off sz : Nat} (h1 : pre.length = off) (h2 : x.length = sz) (y : List α) :
    (pre ++ x ++ post).take off ++ y ++ (pre ++ x ++ post).drop (off + sz) = pre ++ y ++ post := by
  rw [List.append_assoc pre, List.take_left' h1, ← List.append_assoc pre, List.drop_left' (by rw [List.length_append, h1, h2])]

/-- component `i` of a well-typed tuple: its value `vi`, its place in the encoding, and what replacing it does -/
theorem haveTypes_split : ∀ (vs : ValList) (ts : TyList) (i off : Nat) (ti : Ty), vs.haveTypes ts = true →
    TyList.nth? ts i = some (off, ti) →
    ∃ vi pre post, ValList'.get? vs i = some vi ∧ vi.hasType ti = true ∧ pre.length = off ∧
      vs.encodeEach ts = pre ++ vi.encode ti ++ post ∧
      ∀ w, w.hasType ti = true → (ValList'.set vs i w).haveTypes ts = true ∧
        (ValList'.set vs i w).encodeEach ts = pre ++ w.encode ti ++ post
  | _, .nil, _, _, _, _, hn => by cases hn
  | .nil, .cons _ _, _, _, _, h, _ => by cases h
  | .cons v vs, .cons t ts, 0, off, ti, h, hn => by
    cases hn
    simp only [ValList.haveTypes, Bool.and_eq_true] at h
    exact ⟨v, [], vs.encodeEach ts, rfl, h.1, rfl, rfl,
      fun w hw => ⟨by simp only [ValList'.set, ValList.haveTypes, hw, h.2, Bool.and_self], rfl⟩⟩
  | .cons v vs, .cons t ts, i + 1, off, ti, h, hn => by
    simp only [TyList.nth?] at hn
    split at hn <;> try contradiction
    cases hn
    simp only [ValList.haveTypes, Bool.and_eq_true] at h
    obtain ⟨vi, pre, post, hg, ht, rfl, he, hset⟩ := haveTypes_split vs ts i _ _ h.2 ‹_›
    refine ⟨vi, v.encode t ++ pre, post, hg, ht, by rw [List.length_append, Val.encode_length v t h.1], ?_, fun w hw => ?_⟩
    · simp only [ValList.encodeEach, he, List.append_assoc]
    · simp only [ValList'.set, ValList.haveTypes, ValList.encodeEach, h.1, hset w hw, List.append_assoc, Bool.and_self,
        and_self]

theorem fields_split : ∀ (fvs : FieldVals) (fs : Fields) (x : String) (off : Nat) (ti : Ty), fvs.haveTypes fs = true →
    Fields.nth? fs x = some (off, ti) →
    ∃ vi pre post, FieldVals'.get? fvs x = some vi ∧ vi.hasType ti = true ∧ pre.length = off ∧
      fvs.encodeEach fs = pre ++ vi.encode ti ++ post ∧
      ∀ w, w.hasType ti = true → (FieldVals'.set fvs x w).haveTypes fs = true ∧
        (FieldVals'.set fvs x w).encodeEach fs = pre ++ w.encode ti ++ post
  | _, .nil, _, _, _, _, hn => by cases hn
  | .nil, .cons _ _ _, _, _, _, h, _ => by cases h
  | .cons n v r, .cons n' t fs, x, off, ti, h, hn => by
    simp only [FieldVals.haveTypes, Bool.and_eq_true, beq_iff_eq] at h
    obtain ⟨⟨rfl, hv⟩, hr⟩ := h
    simp only [Fields.nth?] at hn
    simp only [FieldVals'.get?, FieldVals'.set]
    cases hx : n == x <;> simp only [hx, ↓reduceIte, Bool.false_eq_true] at hn ⊢
    · split at hn <;> try contradiction
      cases hn
      obtain ⟨vi, pre, post, hg, ht, rfl, he, hset⟩ := fields_split r fs x _ _ hr ‹_›
      refine ⟨vi, v.encode t ++ pre, post, hg, ht, by rw [List.length_append, Val.encode_length v t hv], ?_, fun w hw => ?_⟩
      · simp only [FieldVals.encodeEach, he, List.append_assoc]
      · simp only [FieldVals.haveTypes, FieldVals.encodeEach, hv, hset w hw, List.append_assoc, beq_self_eq_true,
          Bool.and_self, and_self]
    · cases hn
      exact ⟨v, [], r.encodeEach fs, rfl, hv, rfl, rfl,
        fun w hw => ⟨by simp only [FieldVals.haveTypes, hw, hr, beq_self_eq_true, Bool.and_self], rfl⟩⟩

theorem allHaveType_split (t : Ty) : ∀ (vs : ValList) (i : Nat), vs.allHaveType t = true → i < vs.length →
    ∃ vi pre post, ValList'.get? vs i = some vi ∧ vi.hasType t = true ∧ pre.length = i * t.size ∧
      vs.encodeAll t = pre ++ vi.encode t ++ post ∧
      ∀ w, w.hasType t = true → (ValList'.set vs i w).length = vs.length ∧ (ValList'.set vs i w).allHaveType t = true ∧
        (ValList'.set vs i w).encodeAll t = pre ++ w.encode t ++ post
  | .nil, _, _, hi => by cases hi
  | .cons v vs, 0, h, _ => by
    simp only [ValList.allHaveType, Bool.and_eq_true] at h
    exact ⟨v, [], vs.encodeAll t, rfl, h.1, (Nat.zero_mul _).symm, rfl,
      fun w hw => ⟨rfl, by simp only [ValList'.set, ValList.allHaveType, hw, h.2, Bool.and_self], rfl⟩⟩
  | .cons v vs, i + 1, h, hi => by
    simp only [ValList.allHaveType, Bool.and_eq_true] at h
    obtain ⟨vi, pre, post, hg, ht, hl, he, hset⟩ := allHaveType_split t vs i h.2 (by simpa [ValList.length] using hi)
    refine ⟨vi, v.encode t ++ pre, post, hg, ht, by rw [List.length_append, Val.encode_length v t h.1, hl, Nat.succ_mul, Nat.add_comm],
      ?_, fun w hw => ?_⟩
    · simp only [ValList.encodeAll, he, List.append_assoc]
    · simp only [ValList'.set, ValList.length, ValList.allHaveType, ValList.encodeAll, h.1, hset w hw, List.append_assoc,
        Bool.and_self, and_self]

theorem haveTypes_nth (vs : ValList) (ts : TyList) (i off : Nat) (ti : Ty) (h : vs.haveTypes ts = true)
    (hn : TyList.nth? ts i = some (off, ti)) :
    ∃ vi, ValList'.get? vs i = some vi ∧ vi.hasType ti = true ∧
      ((vs.encodeEach ts).drop off).take ti.size = vi.encode ti := by
  obtain ⟨vi, pre, post, hg, ht, hl, he, _⟩ := haveTypes_split vs ts i off ti h hn
  exact ⟨vi, hg, ht, he ▸ slice_mid hl (Val.encode_length vi ti ht)⟩

theorem haveTypes_set (vs : ValList) (ts : TyList) (i off : Nat) (ti : Ty) (w : Val) (h : vs.haveTypes ts = true)
    (hn : TyList.nth? ts i = some (off, ti)) (hw : w.hasType ti = true) :
    (ValList'.set vs i w).haveTypes ts = true ∧
      (ValList'.set vs i w).encodeEach ts =
        (vs.encodeEach ts).take off ++ w.encode ti ++ (vs.encodeEach ts).drop (off + ti.size) := by
  obtain ⟨vi, pre, post, _, ht, hl, he, hset⟩ := haveTypes_split vs ts i off ti h hn
  exact ⟨(hset w hw).1, by rw [(hset w hw).2, he, splice_mid hl (Val.encode_length vi ti ht)]⟩

theorem fields_nth (fvs : FieldVals) (fs : Fields) (x : String) (off : Nat) (ti : Ty) (h : fvs.haveTypes fs = true)
    (hn : Fields.nth? fs x = some (off, ti)) :
    ∃ vi, FieldVals'.get? fvs x = some vi ∧ vi.hasType ti = true ∧
      ((fvs.encodeEach fs).drop off).take ti.size = vi.encode ti := by
  obtain ⟨vi, pre, post, hg, ht, hl, he, _⟩ := fields_split fvs fs x off ti h hn
  exact ⟨vi, hg, ht, he ▸ slice_mid hl (Val.encode_length vi ti ht)⟩

theorem fields_set (fvs : FieldVals) (fs : Fields) (x : String) (off : Nat) (ti : Ty) (w : Val)
    (h : fvs.haveTypes fs = true) (hn : Fields.nth? fs x = some (off, ti)) (hw : w.hasType ti = true) :
    (FieldVals'.set fvs x w).haveTypes fs = true ∧
      (FieldVals'.set fvs x w).encodeEach fs =
        (fvs.encodeEach fs).take off ++ w.encode ti ++ (fvs.encodeEach fs).drop (off + ti.size) := by
  obtain ⟨vi, pre, post, _, ht, hl, he, hset⟩ := fields_split fvs fs x off ti h hn
  exact ⟨(hset w hw).1, by rw [(hset w hw).2, he, splice_mid hl (Val.encode_length vi ti ht)]⟩

theorem allHaveType_nth (t : Ty) (vs : ValList) (i : Nat) (h : vs.allHaveType t = true) (hi : i < vs.length) :
    ∃ vi, ValList'.get? vs i = some vi ∧ vi.hasType t = true ∧
      ((vs.encodeAll t).drop (i * t.size)).take t.size = vi.encode t := by
  obtain ⟨vi, pre, post, hg, ht, hl, he, _⟩ := allHaveType_split t vs i h hi
  exact ⟨vi, hg, ht, he ▸ slice_mid hl (Val.encode_length vi t ht)⟩

theorem allHaveType_set (t : Ty) (vs : ValList) (i : Nat) (w : Val) (h : vs.allHaveType t = true) (hi : i < vs.length)
    (hw : w.hasType t = true) :
    (ValList'.set vs i w).length = vs.length ∧ (ValList'.set vs i w).allHaveType t = true ∧
      (ValList'.set vs i w).encodeAll t =
        (vs.encodeAll t).take (i * t.size) ++ w.encode t ++ (vs.encodeAll t).drop (i * t.size + t.size) := by
  obtain ⟨vi, pre, post, _, ht, hl, he, hset⟩ := allHaveType_split t vs i h hi
  exact ⟨(hset w hw).1, (hset w hw).2.1, by rw [(hset w hw).2.2, he, splice_mid hl (Val.encode_length vi t ht)]⟩

theorem get?_none_of_le : ∀ (vs : ValList) (i : Nat), vs.length ≤ i → ValList'.get? vs i = none
  | .nil, _, _ => rfl
  | .cons _ vs, 0, h => by cases h
  | .cons _ vs, i + 1, h => get?_none_of_le vs i (Nat.le_of_succ_le_succ h)

theorem VRel.tupleGet {ts : TyList} {v : Val} {bs : List Bool} (h : VRel (.agg (.tuple ts)) v bs) (i off : Nat) (ti : Ty)
    (hn : TyList.nth? ts i = some (off, ti)) :
    ∃ vs vi, v = .tuple vs ∧ ValList'.get? vs i = some vi ∧ VRel (VTy.ofTy ti) vi ((bs.drop off).take ti.size) := by
  obtain ⟨h0, rfl⟩ := h
  obtain ⟨vs, rfl, h1⟩ := Val.hasType_tuple h0
  obtain ⟨vi, hg, ht, he⟩ := haveTypes_nth vs ts i off ti h1 hn
  exact ⟨vs, vi, rfl, hg, by simpa only [Val.encode, he] using VRel.of_hasType ht⟩

theorem VRel.field {sn : String} {fs : Fields} {v : Val} {bs : List Bool} (h : VRel (.agg (.struct sn fs)) v bs) (x : String)
    (off : Nat) (ti : Ty) (hn : Fields.nth? fs x = some (off, ti)) :
    ∃ sn' fvs vi, v = .struct sn' fvs ∧ FieldVals'.get? fvs x = some vi ∧
      VRel (VTy.ofTy ti) vi ((bs.drop off).take ti.size) := by
  obtain ⟨h0, rfl⟩ := h
  obtain ⟨fvs, rfl, h1⟩ := Val.hasType_struct h0
  obtain ⟨vi, hg, ht, he⟩ := fields_nth fvs fs x off ti h1 hn
  exact ⟨sn, fvs, vi, rfl, hg, by simpa only [Val.encode, he] using VRel.of_hasType ht⟩

theorem VRel.index {te : Ty} {n : Nat} {v : Val} {bs : List Bool} (h : VRel (.agg (.array te n)) v bs) :
    ∃ vs, v = .array vs ∧
      (∀ i, i < n → ∃ vi, ValList'.get? vs i = some vi ∧ VRel (VTy.ofTy te) vi ((bs.drop (i * te.size)).take te.size)) ∧
      (∀ i, n ≤ i → ValList'.get? vs i = none) := by
  obtain ⟨h0, rfl⟩ := h
  obtain ⟨vs, rfl, rfl, h1⟩ := Val.hasType_array h0
  refine ⟨vs, rfl, fun i hi => ?_, get?_none_of_le vs⟩
  obtain ⟨vi, hg, ht, he⟩ := allHaveType_nth te vs i h1 hi
  exact ⟨vi, hg, by simpa only [Val.encode, he] using VRel.of_hasType ht⟩

theorem chunks_rel (t : Ty) : ∀ (vs : ValList), vs.allHaveType t = true →
    ArgsRel vs.toList ((chunks t.size vs.length (vs.encodeAll t)).map fun el => (VTy.ofTy t, el))
  | .nil, _ => trivial
  | .cons v vs, h => by
    simp only [ValList.allHaveType, Bool.and_eq_true] at h
    have hl := Val.encode_length v _ h.1
    simp only [ValList.toList, ValList.length, chunks, ValList.encodeAll, List.map_cons, ArgsRel, List.take_left' hl,
      List.drop_left' hl]
    exact ⟨VRel.of_hasType h.1, chunks_rel t vs h.2⟩

theorem VRel.array_elems {te : Ty} {n : Nat} {v : Val} {bs : List Bool} (h : VRel (.agg (.array te n)) v bs) :
    ∃ vs, v = .array vs ∧ ArgsRel vs.toList ((chunks te.size n bs).map fun el => (VTy.ofTy te, el)) := by
  obtain ⟨h0, rfl⟩ := h
  obtain ⟨vs, rfl, rfl, h1⟩ := Val.hasType_array h0
  exact ⟨vs, rfl, chunks_rel te vs h1⟩

theorem bitsToNat_eq_toNat (bs : List Bool) : bitsToNat bs = Arith.toNat bs := (toNat_eq_bitsToNat bs).symm

theorem Rel.usize_index {v : Val} {bs : List Bool} (h : Rel (.int .usize) v bs) :
    ∃ m : Int, v = .int m ∧ 0 ≤ m ∧ bitsToNat bs = m.toNat := by
  obtain ⟨m, rfl, hm, rfl⟩ := h.int_inv
  have := toNat_enc_unsigned .usize m rfl hm
  exact ⟨m, rfl, by omega, by rw [bitsToNat_eq_toNat]; omega⟩

end Bit
end GV
