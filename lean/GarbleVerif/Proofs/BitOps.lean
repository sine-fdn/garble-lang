import GarbleVerif.Proofs.ArithCmp
import GarbleVerif.Proofs.BitBridge
import GarbleVerif.Proofs.Wrap
/-! The bit-list operators of the compiler model on *encodings of values*: for operands that are
the encodings of in-range integers, `Arith.binop` returns the encoding of the exact result, and
its overflow condition holds exactly when the exact result is out of range. All widths.

The bit lists of length `k.bits` and the values of the type `k` correspond one to one through `enc k` and
`valOf k.signed` (`valOf_enc`, `enc_of_valOf`). An operator that can overflow is first described on bit lists of the type's
width in terms of `valOf k.signed`, for both signednesses at once (`Checked`), and then read on encodings; comparisons, `==`
and the Boolean operators have no panic and need no `Checked`. -/
namespace GV
namespace Bit
open Arith

/-- the encoding of an integer value of type `k` -/
def enc (k : IntTy) (a : Int) : List Bool := intToBits a k.bits

theorem enc_length (k : IntTy) (a : Int) : (enc k a).length = k.bits := intToBits_length a k.bits

theorem bits_pos (k : IntTy) : 1 ≤ k.bits := IntTy.bits_pos k

theorem pow_bits (k : IntTy) : (2 : Int) ^ k.bits = 2 * (2 : Int) ^ (k.bits - 1) := by
  rw [← Int.pow_succ', Nat.sub_add_cancel (bits_pos k)]

theorem inRange_iff (k : IntTy) (a : Int) : k.inRange a = true ↔ k.lo ≤ a ∧ a ≤ k.hi := k.inRange_iff a

theorem inRange_unsigned {k : IntTy} (hs : k.signed = false) (a : Int) :
    k.inRange a = true ↔ 0 ≤ a ∧ a < (2 : Int) ^ k.bits := by
  simp only [inRange_iff, IntTy.lo, IntTy.hi, hs, Bool.false_eq_true, if_false]
  omega

theorem inRange_signed {k : IntTy} (hs : k.signed = true) (a : Int) :
    k.inRange a = true ↔ -(2 : Int) ^ (k.bits - 1) ≤ a ∧ a < (2 : Int) ^ (k.bits - 1) := by
  simp only [inRange_iff, IntTy.lo, IntTy.hi, hs, if_true]
  omega

theorem cons_of_bits {k : IntTy} {x : List Bool} (hx : x.length = k.bits) :
    ∃ a rest, x = a :: rest ∧ rest.length = k.bits - 1 :=
  exists_cons_of_length (by rw [hx, Nat.sub_add_cancel (bits_pos k)])

theorem inRange_valOf (k : IntTy) (x : List Bool) (hx : x.length = k.bits) :
    k.inRange (valOf k.signed x) = true := by
  cases hs : k.signed
  · have := toNat_lt x
    rw [hx] at this
    exact (inRange_unsigned hs (toNat x : Int)).mpr ⟨Int.natCast_nonneg _, by exact_mod_cast this⟩
  · obtain ⟨a, rest, rfl, hr⟩ := cons_of_bits hx
    rw [inRange_signed hs, ← hr]
    exact toInt_range a rest

/-- a list of `k.bits` bits is the encoding of its value, read as signed or as unsigned -/
theorem eq_enc_of_valOf (k : IntTy) (s : Bool) (r : List Bool) (V : Int) (hl : r.length = k.bits)
    (h : valOf s r = V) : r = enc k V :=
  eq_intToBits_of_emod r k.bits V hl (by rw [← h, ← hl, valOf_emod])

theorem eq_enc_of_toInt (k : IntTy) (r : List Bool) (V : Int) (hl : r.length = k.bits) (h : toInt r = V) :
    r = enc k V :=
  eq_enc_of_valOf k true r V hl h

theorem eq_enc_of_toNat (k : IntTy) (r : List Bool) (V : Int) (hl : r.length = k.bits) (h : (toNat r : Int) = V) :
    r = enc k V :=
  eq_enc_of_valOf k false r V hl h

/-- what an operator that cannot overflow returns: a value of the type, and `r` is its encoding -/
theorem enc_of_valOf {k : IntTy} {r : List Bool} {V : Int} (hl : r.length = k.bits) (hv : valOf k.signed r = V) :
    k.inRange V = true ∧ r = enc k V :=
  ⟨hv ▸ inRange_valOf k r hl, eq_enc_of_valOf k _ r V hl hv⟩

theorem toNat_enc (k : IntTy) (a : Int) : (toNat (enc k a) : Int) = a % (2 : Int) ^ k.bits := toNat_intToBits a k.bits

theorem valOf_enc (k : IntTy) (a : Int) (ha : k.inRange a = true) : valOf k.signed (enc k a) = a :=
  valOf_intToBits k a ha

theorem toNat_enc_unsigned (k : IntTy) (a : Int) (hs : k.signed = false) (ha : k.inRange a = true) :
    (toNat (enc k a) : Int) = a := by
  have h := valOf_enc k a ha
  rwa [hs] at h

theorem toInt_enc_signed (k : IntTy) (a : Int) (hs : k.signed = true) (ha : k.inRange a = true) :
    toInt (enc k a) = a := by
  have h := valOf_enc k a ha
  rwa [hs] at h

theorem enc_injective (k : IntTy) (a b : Int) (ha : k.inRange a = true) (hb : k.inRange b = true)
    (h : enc k a = enc k b) : a = b := by
  rw [← valOf_enc k a ha, ← valOf_enc k b hb, h]

theorem intToBits_congr (a b : Int) (w : Nat) (h : a % (2 : Int) ^ w = b % (2 : Int) ^ w) :
    intToBits a w = intToBits b w := by
  unfold intToBits; rw [h]

theorem enc_wrapTo (k : IntTy) (V : Int) : enc k (Src.wrapTo k V) = enc k V :=
  intToBits_congr _ _ _ (Src.wrapTo_emod k V)

theorem inRange_wrapTo (k : IntTy) (V : Int) : k.inRange (Src.wrapTo k V) = true :=
  (inRange_iff k _).mpr (Src.wrapTo_range k V)

/-- the circuit side of `Src.checked k V`: what a checked operator of type `k` returns for the exact result `V`, the
bits `r.1` and the overflow flag `r.2`. The converse of `flag` follows, because every bit list of the width holds some
value of the type (`Checked.eq_enc`). -/
structure Checked (k : IntTy) (V : Int) (r : List Bool × Bool) : Prop where
  length : r.1.length = k.bits
  val : r.2 = false → valOf k.signed r.1 = V
  flag : r.2 = true → k.inRange V = false

/-- `Checked` of a literal pair, the fields stated on its components: written `⟨hl, hv, hf⟩` they are about `(r, f).1`,
and the unifier may unfold the circuit `r` before it reduces the projection. -/
theorem Checked.pair {k : IntTy} {V : Int} {r : List Bool} {f : Bool} (hl : r.length = k.bits)
    (hv : f = false → valOf k.signed r = V) (hf : f = true → k.inRange V = false) : Checked k V (r, f) :=
  ⟨hl, hv, hf⟩

theorem Checked.eq_enc {k : IntTy} {V : Int} {r : List Bool × Bool} (h : Checked k V r) :
    (k.inRange V = true → r = (enc k V, false)) ∧ (k.inRange V = false → r.2 = true) := by
  obtain ⟨r, f⟩ := r
  cases f
  · obtain ⟨hr, he⟩ : k.inRange V = true ∧ r = enc k V := enc_of_valOf h.length (h.val rfl)
    exact ⟨fun _ => by rw [he], fun hn => by rw [hr] at hn; cases hn⟩
  · exact ⟨fun hr => (by rw [h.flag rfl] at hr; cases hr), fun _ => rfl⟩

/-- the shape of the specifications of the unsigned circuits (Proofs/Arith*.lean): the exact result is a natural
number `n`, too large if it needs more than `k.bits` bits -/
theorem Checked.unsigned {k : IntTy} (hs : k.signed = false) {V : Int} {n : Nat} (hV : V = n) {r : List Bool × Bool}
    (hl : r.1.length = k.bits) (hv : r.2 = false → toNat r.1 = n) (hf : r.2 = true ↔ 2 ^ k.bits ≤ n) :
    Checked k V r := by
  refine ⟨hl, fun h => by rw [hs, hV, ← hv h]; rfl, fun h => Bool.eq_false_iff.mpr fun hr => ?_⟩
  have hlt := ((inRange_unsigned hs _).mp hr).2
  have hge : (2 : Int) ^ k.bits ≤ n := by exact_mod_cast hf.mp h
  omega

/-- the shape of the specifications of the signed circuits -/
theorem Checked.signed {k : IntTy} (hs : k.signed = true) {V : Int} {r : List Bool × Bool}
    (hl : r.1.length = k.bits) (hv : r.2 = false → toInt r.1 = V)
    (hf : r.2 = true ↔ (V < -(2 : Int) ^ (k.bits - 1) ∨ (2 : Int) ^ (k.bits - 1) ≤ V)) :
    Checked k V r := by
  refine ⟨hl, fun h => by rw [hs, ← hv h]; rfl, fun h => Bool.eq_false_iff.mpr fun hr => ?_⟩
  have := (inRange_signed hs _).mp hr
  have := hf.mp h
  omega

/-- the result of `+`, `-`, `*` with its one panic condition -/
theorem Checked.binop {k : IntTy} {V : Int} {r : List Bool × Bool} (h : Checked k V r) :
    (k.inRange V = true → (r.1, [(r.2, PanicKind.overflow)]) = (enc k V, [(false, .overflow)])) ∧
    (k.inRange V = false → ∃ bits, (r.1, [(r.2, PanicKind.overflow)]) = (bits, [(true, .overflow)])) :=
  ⟨fun hr => by rw [h.eq_enc.1 hr], fun hr => ⟨r.1, by rw [h.eq_enc.2 hr]⟩⟩

theorem extendToBits_self (v : List Bool) (s : Bool) (h : v ≠ []) : extendToBits v s v.length = v := by
  unfold extendToBits
  cases v with
  | nil => exact absurd rfl h
  | cons a r => simp

/-- operands of one width are not extended -/
theorem extendToBits_same (x y : List Bool) (s1 s2 : Bool) (h : x.length = y.length) (hx : x ≠ []) :
    extendToBits x s1 (max x.length y.length) = x ∧ extendToBits y s2 (max x.length y.length) = y := by
  have hy : y ≠ [] := fun h0 => hx (List.eq_nil_of_length_eq_zero (by rw [h, h0, List.length_nil]))
  rw [← h, Nat.max_self]
  exact ⟨extendToBits_self x s1 hx, by rw [h]; exact extendToBits_self y s2 hy⟩

theorem enc_ne_nil (k : IntTy) (a : Int) : enc k a ≠ [] :=
  List.ne_nil_of_length_pos (by rw [enc_length]; exact bits_pos k)

/-- both operands, as `binop` sees them after `extend_to_bits` -/
theorem binop_operands (k : IntTy) (a b : Int) (s1 s2 : Bool) :
    extendToBits (enc k a) s1 (max (enc k a).length (enc k b).length) = enc k a ∧
    extendToBits (enc k b) s2 (max (enc k a).length (enc k b).length) = enc k b :=
  extendToBits_same _ _ s1 s2 (by rw [enc_length, enc_length]) (enc_ne_nil k a)

theorem add_checked (k : IntTy) (x y : List Bool) (hx : x.length = k.bits) (hy : y.length = k.bits) :
    Checked k (valOf k.signed x + valOf k.signed y)
      ((add x y).1, if k.signed then (add x y).2.1 ^^ (add x y).2.2 else (add x y).2.1) := by
  have hlen : x.length = y.length := hx.trans hy.symm
  have hl : (add x y).1.length = k.bits := (add_length x y hlen).trans hx
  cases hs : k.signed
  · have hf := add_overflow_unsigned x y hlen
    rw [hx] at hf
    exact Checked.unsigned hs (Int.natCast_add _ _).symm hl (add_exact x y hlen) hf
  · obtain ⟨a, xr, rfl, hxr⟩ := cons_of_bits hx
    obtain ⟨b, yr, rfl, hyr⟩ := cons_of_bits hy
    obtain ⟨hv, hf⟩ := add_signed a b xr yr (hxr.trans hyr.symm)
    rw [hxr] at hf
    exact Checked.signed hs hl hv hf

theorem binop_add (k : IntTy) (a b : Int) (ha : k.inRange a = true) (hb : k.inRange b = true) :
    (k.inRange (a + b) = true →
      binop .add k.signed k.signed k.signed (enc k a) (enc k b) = (enc k (a + b), [(false, .overflow)])) ∧
    (k.inRange (a + b) = false →
      ∃ bits, binop .add k.signed k.signed k.signed (enc k a) (enc k b) = (bits, [(true, .overflow)])) := by
  have h := add_checked k _ _ (enc_length k a) (enc_length k b)
  rw [valOf_enc k a ha, valOf_enc k b hb] at h
  have hops := binop_operands k a b k.signed k.signed
  unfold binop
  simp only [hops.1, hops.2, Bool.or_self]
  exact h.binop

theorem sub_checked (k : IntTy) (x y : List Bool) (hx : x.length = k.bits) (hy : y.length = k.bits) :
    Checked k (valOf k.signed x - valOf k.signed y) (sub x y k.signed) := by
  have hlen : x.length = y.length := hx.trans hy.symm
  cases hs : k.signed
  · obtain ⟨hf, hv, hl⟩ := sub_unsigned x y hlen
    -- `Checked.unsigned` does not apply: the exact difference may be negative, so the three fields are shown directly
    refine ⟨hl.trans hx, fun h => ?_, fun h => Bool.eq_false_iff.mpr fun hr => ?_⟩
    · have hle : ¬ toNat x < toNat y := fun hlt => by rw [hf.mpr hlt] at h; cases h
      rw [hs]
      show ((toNat (sub x y false).1 : Nat) : Int) = (toNat x : Int) - (toNat y : Int)
      rw [hv h]
      omega
    · have hlt := hf.mp h
      have h0 : (0 : Int) ≤ (toNat x : Int) - (toNat y : Int) := ((inRange_unsigned hs _).mp hr).1
      omega
  · obtain ⟨a, xr, rfl, hxr⟩ := cons_of_bits hx
    obtain ⟨b, yr, rfl, hyr⟩ := cons_of_bits hy
    obtain ⟨hf, hv, hl⟩ := sub_signed a b xr yr (hxr.trans hyr.symm)
    rw [hxr] at hf
    exact Checked.signed hs (hl.trans hx) hv hf

theorem binop_sub (k : IntTy) (a b : Int) (ha : k.inRange a = true) (hb : k.inRange b = true) :
    (k.inRange (a - b) = true →
      binop .sub k.signed k.signed k.signed (enc k a) (enc k b) = (enc k (a - b), [(false, .overflow)])) ∧
    (k.inRange (a - b) = false →
      ∃ bits, binop .sub k.signed k.signed k.signed (enc k a) (enc k b) = (bits, [(true, .overflow)])) := by
  have h := sub_checked k _ _ (enc_length k a) (enc_length k b)
  rw [valOf_enc k a ha, valOf_enc k b hb] at h
  have hops := binop_operands k a b k.signed k.signed
  unfold binop
  simp only [hops.1, hops.2]
  exact h.binop

theorem comparator_valOf (k : IntTy) (x y : List Bool) (hx : x.length = k.bits) (hy : y.length = k.bits) :
    comparator x k.signed y k.signed =
      (decide (valOf k.signed x < valOf k.signed y), decide (valOf k.signed y < valOf k.signed x)) := by
  cases hs : k.signed
  · rw [comparator_unsigned x y (hx.trans hy.symm)]
    simp only [valOf, Bool.false_eq_true, if_false, Int.ofNat_lt]
  · obtain ⟨a, xr, rfl, hxr⟩ := cons_of_bits hx
    obtain ⟨b, yr, rfl, hyr⟩ := cons_of_bits hy
    exact comparator_signed a b xr yr (hxr.trans hyr.symm)

theorem comparator_enc (k : IntTy) (a b : Int) (ha : k.inRange a = true) (hb : k.inRange b = true) :
    comparator (enc k a) k.signed (enc k b) k.signed = (decide (a < b), decide (b < a)) := by
  rw [comparator_valOf k _ _ (enc_length k a) (enc_length k b), valOf_enc k a ha, valOf_enc k b hb]

theorem binop_lt (k : IntTy) (a b : Int) (ha : k.inRange a = true) (hb : k.inRange b = true) :
    binop .lt k.signed k.signed false (enc k a) (enc k b) = ([decide (a < b)], []) := by
  have hops := binop_operands k a b k.signed k.signed
  unfold binop
  simp only [hops.1, hops.2, comparator_enc k a b ha hb]

theorem binop_gt (k : IntTy) (a b : Int) (ha : k.inRange a = true) (hb : k.inRange b = true) :
    binop .gt k.signed k.signed false (enc k a) (enc k b) = ([decide (b < a)], []) := by
  have hops := binop_operands k a b k.signed k.signed
  unfold binop
  simp only [hops.1, hops.2, comparator_enc k a b ha hb]

theorem eqBits_enc (k : IntTy) (a b : Int) (ha : k.inRange a = true) (hb : k.inRange b = true) :
    eqBits (enc k a) (enc k b) = decide (a = b) := by
  rw [Bool.eq_iff_iff, eqBits_iff _ _ (by rw [enc_length, enc_length]), decide_eq_true_iff]
  exact ⟨enc_injective k a b ha hb, fun h => by rw [h]⟩

theorem binop_eq_int (k : IntTy) (a b : Int) (ha : k.inRange a = true) (hb : k.inRange b = true) :
    binop .eq false false false (enc k a) (enc k b) = ([decide (a = b)], []) ∧
    binop .ne false false false (enc k a) (enc k b) = ([!decide (a = b)], []) := by
  have hops := binop_operands k a b false false
  unfold binop
  simp only [hops.1, hops.2, eqBits_enc k a b ha hb]
  trivial

theorem binop_bool (a b : Bool) :
    binop .eq false false false [a] [b] = ([a == b], []) ∧
    binop .ne false false false [a] [b] = ([a != b], []) ∧
    binop .bitAnd false false false [a] [b] = ([a && b], []) ∧
    binop .bitOr false false false [a] [b] = ([a || b], []) ∧
    binop .bitXor false false false [a] [b] = ([a != b], []) := by
  cases a <;> cases b <;> decide

theorem neg_checked (k : IntTy) (hs : k.signed = true) (x : List Bool) (hx : x.length = k.bits) :
    Checked k (-valOf k.signed x) (negChecked x) := by
  obtain ⟨a, rest, rfl, hr⟩ := cons_of_bits hx
  obtain ⟨hf, hv⟩ := negChecked_spec a rest
  have hrange := toInt_range a rest
  rw [hr] at hf hrange
  rw [hs]
  refine Checked.signed hs (by rw [← hx]; exact neg_length _) hv ?_
  -- of the values of the type, only the least one has no negative
  rw [hf]
  show _ ↔ (-toInt (a :: rest) < _ ∨ _ ≤ -toInt (a :: rest))
  omega

theorem negChecked_enc (k : IntTy) (a : Int) (hs : k.signed = true) (ha : k.inRange a = true) :
    (k.inRange (-a) = true → negChecked (enc k a) = (enc k (-a), false)) ∧
    (k.inRange (-a) = false → (negChecked (enc k a)).2 = true) := by
  have h := neg_checked k hs _ (enc_length k a)
  rw [valOf_enc k a ha] at h
  exact h.eq_enc

theorem le_bits (k : IntTy) (a b : Int) (ha : k.inRange a = true) (hb : k.inRange b = true) :
    bOr (comparator (enc k a) k.signed (enc k b) k.signed).1 (eqBits (enc k a) (enc k b)) = decide (a ≤ b) ∧
    bOr (comparator (enc k a) k.signed (enc k b) k.signed).2 (eqBits (enc k a) (enc k b)) = decide (a ≥ b) := by
  rw [comparator_enc k a b ha hb, eqBits_enc k a b ha hb, bOr_eq, bOr_eq, ← Bool.decide_or, ← Bool.decide_or]
  exact ⟨decide_eq_decide.mpr (by omega), decide_eq_decide.mpr (by omega)⟩

/-- the bits of a cast are the encoding of the source value in the target width -/
theorem cast_bits (x : List Bool) (s : Bool) (w : Nat) (V : Int) (hx : x ≠ []) (hv : valOf s x = V) :
    Arith.cast x s w = intToBits V w :=
  eq_intToBits_of_emod _ w V (cast_length x s w hx) (by rw [← hv, cast_val x s w hx])

theorem cast_int_int (k k' : IntTy) (n : Int) (hn : k.inRange n = true) :
    Arith.cast (enc k n) k.signed k'.bits = enc k' (Src.wrapTo k' n) ∧ k'.inRange (Src.wrapTo k' n) = true := by
  rw [cast_bits (enc k n) k.signed k'.bits n (enc_ne_nil k n) (valOf_enc k n hn), enc_wrapTo]
  exact ⟨rfl, inRange_wrapTo k' n⟩

theorem cast_bool_int (k' : IntTy) (b : Bool) :
    Arith.cast [b] false k'.bits = enc k' (if b then 1 else 0) ∧ k'.inRange (if b then 1 else 0) = true := by
  constructor
  · have hv : valOf false [b] = (if b then 1 else 0) := by cases b <;> decide
    rw [cast_bits [b] false k'.bits _ (by simp) hv]; rfl
  · cases b <;> cases k' <;> decide

theorem cast_int_bool (k : IntTy) (n : Int) (hn : k.inRange n = true) :
    Arith.cast (enc k n) k.signed 1 = [n % 2 == 1] := by
  rw [cast_bits (enc k n) k.signed 1 n (enc_ne_nil k n) (valOf_enc k n hn)]
  simp only [intToBits, natToBits, Int.pow_one, Nat.pow_zero, Nat.div_one]
  rcases Int.emod_two_eq n with h | h <;> rw [h] <;> rfl

end Bit
end GV
