import GarbleVerif.Proofs.LastUse
import GarbleVerif.Proofs.FindOutReg
import GarbleVerif.Proofs.RegEval
/-! Simulation between SSA evaluation and strict evaluation of the converted register circuit:
one lemma per gate (`convertGate_step`), one induction over the gate loop (`convertGates_spec`). -/
namespace GV
namespace Reg
open RCircuit

/-- bookkeeping (`Pre`), plus: every wire `< g` that a gate `≥ g` or an output still reads is mapped; the values
are in `Val` -/
structure Inv0 (last : List LastUse) (N g : Nat) (st : Alloc) : Prop where
  mapLen : st.wireMap.length = N
  mapped : ∀ w r, regOf st w = some r → w < g ∧ r < st.next
  live : ∀ w, w < g → LateUse last w g → ∃ r, regOf st w = some r
  inj : ∀ w w' r, regOf st w = some r → regOf st w' = some r → w = w'
  freeNodup : st.free.Nodup
  freeOk : ∀ r, r ∈ st.free → r < st.next ∧ ∀ w, regOf st w ≠ some r

theorem Inv0.pre {last N g st} (h : Inv0 last N g st) : Pre st :=
  ⟨fun w r hr => (h.mapped w r hr).2, h.inj, h.freeNodup, h.freeOk⟩

/-- every mapped wire has a value, and its register holds that value -/
def Val (st : Alloc) (ws : List Bool) (regs : List (Option Bool)) : Prop :=
  ∀ w r, regOf st w = some r → ∃ v, ws[w]? = some v ∧ readReg regs r = some v

/-- the state after a gate: wire `g` is mapped to `out` -/
def bind (st1 : Alloc) (g out : Nat) (insts : List Inst) (ands : Nat) : Alloc :=
  { st1 with wireMap := st1.wireMap.set g (some out), insts := insts, andOps := ands }

theorem regOf_bind (st1 : Alloc) (g out : Nat) (insts : List Inst) (ands : Nat) (w : Nat)
    (hg : g < st1.wireMap.length) :
    regOf (bind st1 g out insts ands) w = if g = w then some out else regOf st1 w := by
  simp only [regOf, bind, getD_set, hg, and_true]

theorem regOf_bind_some {st1 : Alloc} {g out : Nat} {insts : List Inst} {ands w r : Nat}
    (hg : g < st1.wireMap.length) (h : regOf (bind st1 g out insts ands) w = some r) :
    (w = g ∧ r = out) ∨ (w ≠ g ∧ regOf st1 w = some r) := by
  rw [regOf_bind _ _ _ _ _ _ hg] at h
  split at h
  · cases h
    exact .inl ⟨Eq.symm ‹_›, rfl⟩
  · exact .inr ⟨Ne.symm ‹_›, h⟩

theorem inv0_step {last : List LastUse} {N g : Nat} {st st1 : Alloc} {out : Nat}
    (hinv : Inv0 last N g st) (hf : FSpec last g st out st1) (hg : g < N)
    (insts : List Inst) (ands : Nat) :
    Inv0 last N (g + 1) (bind st1 g out insts ands) := by
  have hgl : g < st1.wireMap.length := by rw [hf.mapLen, hinv.mapLen]; exact hg
  refine ⟨by simp [bind, hf.mapLen, hinv.mapLen], ?_, ?_, ?_, hf.freeNodup, ?_⟩
  · intro w r h
    rcases regOf_bind_some hgl h with ⟨rfl, rfl⟩ | ⟨_, h⟩
    · exact ⟨Nat.lt_succ_self _, hf.outLt⟩
    · have := hinv.mapped w r (hf.shrink w r h)
      exact ⟨Nat.lt_succ_of_lt this.1, Nat.lt_of_lt_of_le this.2 hf.nextMono⟩
  · intro w hw hl
    rw [regOf_bind _ _ _ _ _ _ hgl]
    by_cases e : g = w
    · simp [e]
    · simp only [e, if_false]
      obtain ⟨r, hr⟩ := hinv.live w (Nat.lt_of_le_of_ne (Nat.le_of_lt_succ hw) (Ne.symm e))
        (hl.weaken (Nat.le_succ g))
      refine ⟨r, hf.keep w r hr ?_⟩
      -- a wire that is still needed after gate `g` was not released by it
      intro hat
      rcases hl with hp | ⟨k, hk, hk'⟩
      · rw [hp] at hat; cases hat
      · rw [hk'] at hat
        cases hat
        exact Nat.not_succ_le_self g hk
  · intro w w' r h h'
    rcases regOf_bind_some hgl h with ⟨e, rfl⟩ | ⟨_, h1⟩
    · rcases regOf_bind_some hgl h' with ⟨e', _⟩ | ⟨_, h1'⟩
      · rw [e, e']
      · exact absurd rfl (hf.fresh w' _ h1')
    · rcases regOf_bind_some hgl h' with ⟨_, rfl⟩ | ⟨_, h1'⟩
      · exact absurd rfl (hf.fresh w _ h1)
      · exact hinv.inj w w' r (hf.shrink w r h1) (hf.shrink w' r h1')
  · intro r hr
    obtain ⟨h1, h2, h3⟩ := hf.freeOk r hr
    refine ⟨h1, fun w h => ?_⟩
    rcases regOf_bind_some hgl h with ⟨_, e⟩ | ⟨_, h⟩
    · exact h2 e
    · exact h3 w h

theorem val_step {last : List LastUse} {N g : Nat} {st st1 : Alloc} {out : Nat}
    {ws : List Bool} {regs : List (Option Bool)}
    (hinv : Inv0 last N g st) (hf : FSpec last g st out st1) (hg : g < N)
    (hws : ws.length = g) (hval : Val st ws regs) (hout : out < regs.length)
    (insts : List Inst) (ands : Nat) (v : Bool) :
    Val (bind st1 g out insts ands) (ws ++ [v]) (regs.set out (some v)) := by
  have hgl : g < st1.wireMap.length := by rw [hf.mapLen, hinv.mapLen]; exact hg
  intro w r h
  rw [readReg_set]
  rcases regOf_bind_some hgl h with ⟨rfl, rfl⟩ | ⟨_, h⟩
  · exact ⟨v, by simp [← hws], by simp [hout]⟩
  · obtain ⟨x, hx, hr⟩ := hval w r (hf.shrink w r h)
    have hw : w < ws.length := (List.getElem?_eq_some_iff.mp hx).1
    exact ⟨x, by rw [List.getElem?_append_left hw]; exact hx, by simp [Ne.symm (hf.fresh w r h), hr]⟩

def isAnd : Gate → Nat
  | .and _ _ => 1
  | _ => 0

/-- one gate of the conversion: it succeeds and is described by `FSpec` + `bind`; the emitted operation is
the gate with its operands' registers looked up, so it computes on the registers what the gate computes
on the wires -/
theorem convertGate_step {last : List LastUse} {N g : Nat} {st : Alloc} (hinv : Inv0 last N g st)
    (gate : Gate) (hok : Circuit.gateOk gate g = true)
    (hlate : ∀ a, a ∈ gateOperands gate → LateUse last a g) :
    ∃ out st1 op, FSpec last g st out st1 ∧
      convertGate last st g gate =
        some (bind st1 g out (st.insts ++ [⟨out, op⟩]) (st.andOps + isAnd gate)) ∧ notInput op ∧
      ∀ ins ws regs, Val st ws regs →
        ∃ v, Circuit.evalGate ws gate = some v ∧ strictOp ins regs op = some v := by
  have hmap : ∀ a ∈ gateOperands gate, ∃ r, regOf st a = some r :=
    fun a ha => hinv.live a (gateOk_operands hok a ha) (hlate a ha)
  cases gate with
  | xor a b =>
    obtain ⟨ra, hra⟩ := hmap a (.head _)
    obtain ⟨rb, hrb⟩ := hmap b (.tail _ (.head _))
    obtain ⟨out, st1, hfo, hf⟩ := findOutReg_spec last st g a (some b) hinv.pre hra
    refine ⟨out, st1, .xor ra rb, hf, ?_, trivial, fun ins ws regs hv => ?_⟩
    · unfold regOf at hra hrb
      simp only [convertGate, hra, hrb, hfo, Option.bind_eq_bind, Option.bind_some, Option.pure_def,
        bind, hf.insts, hf.andOps, isAnd, Nat.add_zero]
    · obtain ⟨x, hx, hx'⟩ := hv a ra hra
      obtain ⟨y, hy, hy'⟩ := hv b rb hrb
      exact ⟨x ^^ y, by rw [Circuit.evalGate, hx, hy]; rfl, by rw [strictOp, hx', hy']; rfl⟩
  | and a b =>
    obtain ⟨ra, hra⟩ := hmap a (.head _)
    obtain ⟨rb, hrb⟩ := hmap b (.tail _ (.head _))
    obtain ⟨out, st1, hfo, hf⟩ := findOutReg_spec last st g a (some b) hinv.pre hra
    refine ⟨out, st1, .and ra rb, hf, ?_, trivial, fun ins ws regs hv => ?_⟩
    · unfold regOf at hra hrb
      simp only [convertGate, hra, hrb, hfo, Option.bind_eq_bind, Option.bind_some, Option.pure_def,
        bind, hf.insts, hf.andOps, isAnd]
    · obtain ⟨x, hx, hx'⟩ := hv a ra hra
      obtain ⟨y, hy, hy'⟩ := hv b rb hrb
      exact ⟨x && y, by rw [Circuit.evalGate, hx, hy]; rfl, by rw [strictOp, hx', hy']; rfl⟩
  | not a =>
    obtain ⟨ra, hra⟩ := hmap a (.head _)
    obtain ⟨out, st1, hfo, hf⟩ := findOutReg_spec last st g a none hinv.pre hra
    refine ⟨out, st1, .not ra, hf, ?_, trivial, fun ins ws regs hv => ?_⟩
    · unfold regOf at hra
      simp only [convertGate, hra, hfo, Option.bind_eq_bind, Option.bind_some, Option.pure_def,
        bind, hf.insts, hf.andOps, isAnd, Nat.add_zero]
    · obtain ⟨x, hx, hx'⟩ := hv a ra hra
      exact ⟨!x, by rw [Circuit.evalGate, hx]; rfl, by rw [strictOp, hx']; rfl⟩

/-- **the gate loop** never panics and emits one instruction per gate, `em`; bookkeeping facts about
the final state; and `em` simulates the SSA gates on every register file that has at least `stF.next`
registers. (`next` only grows, so the output register of every instruction is below `stF.next`.) -/
theorem convertGates_spec {last : List LastUse} {N : Nat} (gs : List Gate) {g : Nat} {st : Alloc}
    (hinv : Inv0 last N g st) (hN : g + gs.length ≤ N)
    (hval : Circuit.validateGates gs g = .ok ())
    (hlate : ∀ j gate, gs[j]? = some gate → ∀ a, a ∈ gateOperands gate → LateUse last a (g + j)) :
    ∃ stF em, convertGates last gs g st = some stF ∧ Inv0 last N (g + gs.length) stF ∧
      stF.insts = st.insts ++ em ∧ em.length = gs.length ∧ (∀ inst ∈ em, notInput inst.op) ∧
      st.next ≤ stF.next ∧ stF.next ≤ st.next + gs.length ∧
      stF.andOps = st.andOps + (gs.map isAnd).sum ∧
      ∀ ins ws regs, ws.length = g → Val st ws regs → stF.next ≤ regs.length →
        ∃ ws' regs', Circuit.evalGates gs ws = some ws' ∧ strictInsts ins em regs = some regs' ∧
          Val stF ws' regs' := by
  induction gs generalizing g st with
  | nil =>
    exact ⟨st, [], rfl, by simpa using hinv, by simp, rfl, by simp, Nat.le_refl _, by simp, by simp,
      fun _ ws regs _ hv _ => ⟨ws, regs, rfl, rfl, hv⟩⟩
  | cons gate rest ih =>
    obtain ⟨hok, hval⟩ := (Circuit.validateGates_cons ..).mp hval
    have e (a : Nat) : a + (gate :: rest).length = a + 1 + rest.length := by
      rw [List.length_cons, ← Nat.add_assoc, Nat.add_right_comm]
    rw [e] at hN
    have hg : g < N := Nat.lt_of_lt_of_le (Nat.lt_succ_self g) (Nat.le_trans (Nat.le_add_right ..) hN)
    obtain ⟨out, st1, op, hf, hc, hni, hop⟩ := convertGate_step hinv gate hok (hlate 0 gate rfl)
    obtain ⟨stF, em, hcF, hinvF, hiF, hlen, hniF, hnF, hnF', haF, simF⟩ :=
      ih (inv0_step hinv hf hg (st.insts ++ [⟨out, op⟩]) (st.andOps + isAnd gate)) hN hval fun j gt hj => Nat.add_right_comm g 1 j ▸ hlate (j + 1) gt hj
    refine ⟨stF, ⟨out, op⟩ :: em, by simp only [convertGates, hc, hcF], ?_, hiF.trans (List.append_assoc ..),
      congrArg (· + 1) hlen, ?_, Nat.le_trans hf.nextMono hnF, ?_, haF.trans (Nat.add_assoc ..), ?_⟩
    · rw [e]
      exact hinvF
    · intro i hi
      rcases List.mem_cons.mp hi with rfl | hi
      · exact hni
      · exact hniF i hi
    · rw [e]
      exact Nat.le_trans hnF' (Nat.add_le_add_right hf.nextLe _)
    · intro ins ws regs hws hv hM
      have hlt : out < regs.length := Nat.lt_of_lt_of_le hf.outLt (Nat.le_trans hnF hM)
      obtain ⟨v, hev, hso⟩ := hop ins ws regs hv
      obtain ⟨ws', regs', heg, hst, hvF⟩ := simF ins _ _ (by rw [List.length_append, hws]; rfl)
        (val_step hinv hf hg hws hv hlt _ _ v) (by rwa [List.length_set])
      exact ⟨ws', regs', by simp only [Circuit.evalGates, hev, heg],
        strictInsts_cons_eq_some.mpr ⟨v, hso, hlt, hst⟩, hvF⟩

end Reg
end GV
