import GarbleVerif.Model.SrcSem
/-! Shape of the environment: evaluation never changes which names are bound, only their values;
statements only add bindings in front. (C14: a shadowing binding ends with its scope.) -/
namespace GV
namespace Src

def names (env : Env) : List String := env.map Prod.fst

@[simp] theorem names_append (a b : Env) : names (a ++ b) = names a ++ names b := by simp [names]
@[simp] theorem names_cons (x : String) (v : Val) (b : Env) : names ((x, v) :: b) = x :: names b := rfl

theorem names_set (env : Env) (x : String) (v : Val) : names (env.set x v) = names env := by
  induction env with
  | nil => rfl
  | cons b r ih =>
    simp only [Env.set]
    split
    · rfl
    · exact congrArg (b.1 :: ·) ih

theorem names_restore {env env1 : Env} (h : ∃ pre, names env1 = pre ++ names env) :
    names (restore env env1) = names env := by
  obtain ⟨pre, h⟩ := h
  have hl : env1.length = pre.length + env.length := by simpa [names] using congrArg List.length h
  rw [restore, names, List.map_drop, hl, Nat.add_sub_cancel, ← names, h, List.drop_left]

structure FrameAt (fuel : Nat) (prog : Prog) : Prop where
  expr : ∀ env e v env', evalExpr fuel prog env e = .ok (v, env') → names env' = names env
  list : ∀ env es vs env', evalList fuel prog env es = .ok (vs, env') → names env' = names env
  fields : ∀ env fs vs env', evalFields fuel prog env fs = .ok (vs, env') → names env' = names env
  arms : ∀ env v arms r env', evalArms fuel prog env v arms = .ok (r, env') → names env' = names env
  path : ∀ env cur p steps env', evalPath fuel prog env cur p = .ok (steps, env') → names env' = names env
  stmts : ∀ env ss v env', evalStmts fuel prog env ss = .ok (v, env') → ∃ pre, names env' = pre ++ names env
  stmt : ∀ env s v env', evalStmt fuel prog env s = .ok (v, env') → ∃ pre, names env' = pre ++ names env
  loop : ∀ env p vs body env', evalLoop fuel prog env p vs body = .ok env' → names env' = names env

/- Each evaluator is split along its definition (`fun_cases`); a branch that fails is no `.ok`. In a
branch that succeeds the final environment is `env` itself or is reached from it through evaluations
at the smaller fuel, named by the hypotheses `fun_cases` leaves (`‹_›` finds the one that ends in the
environment asked for), each of which keeps the names. -/
theorem frame (prog : Prog) (fuel : Nat) : FrameAt fuel prog := by
  induction fuel using Nat.strongRecOn with | _ fuel ih
  refine ⟨fun env e v env' => ?_, fun env es vs env' => ?_, fun env fs vs env' => ?_, fun env v arms r env' => ?_,
    fun env cur p steps env' => ?_, fun env ss v env' => ?_, fun env s v env' => ?_, fun env p vs body env' => ?_⟩
  · fun_cases evalExpr fuel prog env e <;> intro h <;> try cases h
    all_goals have ih := ih _ (Nat.lt_succ_self _)
    -- no sub-evaluation; one; two in sequence; a scrutinee and the arms; a block
    all_goals first
      | rfl
      | exact ih.expr _ _ _ _ ‹_›
      | exact ih.list _ _ _ _ ‹_›
      | exact ih.fields _ _ _ _ ‹_›
      | exact (ih.expr _ _ _ _ ‹_›).trans (ih.expr _ _ _ _ ‹_›)
      | exact (ih.arms _ _ _ _ _ ‹_›).trans (ih.expr _ _ _ _ ‹_›)
      | exact names_restore (ih.stmts _ _ _ _ ‹_›)
  · fun_cases evalList fuel prog env es <;> intro h <;> cases h
    · rfl
    · have ih := ih _ (Nat.lt_succ_self _)
      exact (ih.list _ _ _ _ ‹_›).trans (ih.expr _ _ _ _ ‹_›)
  · fun_cases evalFields fuel prog env fs <;> intro h <;> cases h
    · rfl
    · have ih := ih _ (Nat.lt_succ_self _)
      exact (ih.fields _ _ _ _ ‹_›).trans (ih.expr _ _ _ _ ‹_›)
  · fun_cases evalArms fuel prog env v arms <;> intro h <;> try cases h
    all_goals have ih := ih _ (Nat.lt_succ_self _)
    · exact names_restore ⟨_, (ih.expr _ _ _ _ ‹_›).trans (names_append _ _)⟩
    · exact ih.arms _ _ _ _ _ h
  · fun_cases evalPath fuel prog env cur p <;> intro h <;> cases h
    all_goals have ih := ih _ (Nat.lt_succ_self _)
    · rfl
    · exact (ih.path _ _ _ _ _ ‹_›).trans (ih.expr _ _ _ _ ‹_›)
    · exact ih.path _ _ _ _ _ ‹_›
    · exact ih.path _ _ _ _ _ ‹_›
  · fun_cases evalStmts fuel prog env ss <;> intro h <;> try cases h
    all_goals have ih := ih _ (Nat.lt_succ_self _)
    · exact ⟨[], rfl⟩
    · exact ih.stmt _ _ _ _ ‹_›
    · obtain ⟨pre1, h1⟩ := ih.stmt _ _ _ _ ‹_›
      obtain ⟨pre2, h2⟩ := ih.stmts _ _ _ _ h
      exact ⟨pre2 ++ pre1, by rw [h2, h1, List.append_assoc]⟩
  · fun_cases evalStmt fuel prog env s <;> intro h <;> try cases h
    all_goals have ih := ih _ (Nat.lt_succ_self _)
    · exact ⟨_, (names_append _ _).trans (congrArg (names _ ++ ·) (ih.expr _ _ _ _ ‹_›))⟩
    · exact ⟨[_], congrArg (_ :: ·) (ih.expr _ _ _ _ ‹_›)⟩
    · exact ⟨[], by rw [names_set, ih.path _ _ _ _ _ ‹_›, ih.expr _ _ _ _ ‹_›]; rfl⟩
    · exact ⟨[], ih.expr _ _ _ _ h⟩
    · exact ⟨[], (ih.loop _ _ _ _ _ ‹_›).trans (ih.expr _ _ _ _ ‹_›)⟩
    · exact ⟨[], by rw [ih.loop _ _ _ _ _ ‹_›, ih.expr _ _ _ _ ‹_›, ih.expr _ _ _ _ ‹_›]; rfl⟩
  · fun_cases evalLoop fuel prog env p vs body <;> intro h <;> try cases h
    all_goals have ih := ih _ (Nat.lt_succ_self _)
    · rfl
    · obtain ⟨pre, hp⟩ := ih.stmts _ _ _ _ ‹_›
      rw [ih.loop _ _ _ _ _ h]
      exact names_restore ⟨_, hp.trans (by rw [names_append, List.append_assoc])⟩

end Src
end GV
