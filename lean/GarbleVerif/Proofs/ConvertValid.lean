import GarbleVerif.Proofs.RegEval
/-!
# A register circuit with a successful strict run passes validation

`validate` accepts every register circuit that has a successful strict run, provided its `Input` instructions sit at the
positions of the registers they write (which a run cannot tell) and the circuit is within the size limits
(`validate_of_eval?`). The last two lemmas give C10 its condition on the inputs.
-/
namespace GV
namespace Reg
open RCircuit

/-- every defined register is marked -/
structure Rel2 (set : List Bool) (regs : List (Option Bool)) : Prop where
  len : set.length = regs.length
  marked : ∀ r v, regs[r]? = some (some v) → set.getD r false = true

theorem Rel2.init (n : Nat) : Rel2 (List.replicate n false) (List.replicate n none) := by
  refine ⟨by simp, fun r v h => ?_⟩
  simp [List.getElem?_replicate] at h

theorem Rel2.isSet {set regs r v} (h : Rel2 set regs) (hr : readReg regs r = some v) :
    r < regs.length ∧ isSet set r = true :=
  ⟨readReg_lt hr, h.marked r v (readReg_eq_some.mp hr)⟩

theorem Rel2.set {set regs} (h : Rel2 set regs) (o : Nat) (v : Bool) :
    Rel2 (set.set o true) (regs.set o (some v)) := by
  refine ⟨by simp [h.len], fun r w hr => (isSet_set ..).mpr ?_⟩
  rw [← readReg_eq_some, readReg_set] at hr
  split at hr
  · exact Or.inl (h.len ▸ ‹_›)
  · exact Or.inr (h.isSet hr).2

theorem Rel2.opOk {inputRegs set regs i out op v} {ins : List (List Bool)} (hr : Rel2 set regs)
    (hs : Circuit.shapeOk inputRegs ins = true) (hv : strictOp ins regs op = some v)
    (hpos : ¬ notInput op → out = i) : OpOk inputRegs regs.length set i out op := by
  cases op with
  | input p idx => exact ⟨(hpos id).symm, (input_some hs).mpr ⟨v, hv⟩⟩
  | xor a b | and a b =>
    simp only [strictOp, Option.bind_eq_bind, Option.bind_eq_some_iff] at hv
    obtain ⟨x, hx, y, hy, _⟩ := hv
    exact ⟨⟨(hr.isSet hx).1, (hr.isSet hy).1⟩, (hr.isSet hx).2, (hr.isSet hy).2⟩
  | not a =>
    simp only [strictOp, Option.bind_eq_bind, Option.bind_eq_some_iff] at hv
    obtain ⟨x, hx, _⟩ := hv
    exact hr.isSet hx

theorem strict_validate {inputRegs : List Nat} {ins : List (List Bool)}
    (hs : Circuit.shapeOk inputRegs ins = true) (insts : List Inst) {i : Nat} {set : List Bool}
    {regs regsF : List (Option Bool)} (hr : Rel2 set regs)
    (hpos : ∀ j inst, insts[j]? = some inst → ¬ notInput inst.op → inst.out = i + j)
    (h : strictInsts ins insts regs = some regsF) :
    ∃ setF, validateInsts inputRegs regs.length insts i set = .ok setF ∧ Rel2 setF regsF := by
  induction insts generalizing i set regs with
  | nil =>
    simp only [strictInsts, Option.some.injEq] at h
    exact ⟨set, rfl, h ▸ hr⟩
  | cons inst rest ih =>
    obtain ⟨v, hv, hout, h⟩ := strictInsts_cons_eq_some.mp h
    obtain ⟨setF, h1, h2⟩ := ih (i := i + 1) (hr.set inst.out v)
      (fun j inst' hj hni => (hpos (j + 1) inst' hj hni).trans (Nat.add_right_comm i j 1)) h
    rw [List.length_set] at h1
    exact ⟨setF, validateInsts_cons.mpr ⟨⟨hout, hr.opOk hs hv (hpos 0 inst rfl)⟩, h1⟩, h2⟩

/-- **a converse of C16**: a register circuit with a successful strict run is valid, provided its `Input` instructions
sit at the registers they write, some party has an input, there is an output and at most `MAX_GATES` instructions -/
theorem validate_of_eval? {r : RCircuit} {ins : List (List Bool)} {out : List Bool}
    (hev : r.eval? ins = some out)
    (hpos : ∀ j (inst : Inst), r.insts[j]? = some inst → ¬ notInput inst.op → inst.out = j)
    (hin : r.inputRegs.all (· == 0) = false) (hout : r.outputRegs ≠ [])
    (hlen : r.insts.length ≤ MAX_GATES) : r.validate = .ok () := by
  obtain ⟨hs, regsF, hst, hrd⟩ := eval?_eq_some.mp hev
  obtain ⟨setF, hvi, hrel⟩ := strict_validate hs r.insts (i := 0) (Rel2.init r.maxRegCount)
    (fun j inst hj hni => (hpos j inst hj hni).trans (Nat.zero_add j).symm) hst
  rw [List.length_replicate] at hvi
  have hl : regsF.length = r.maxRegCount := (strictInsts_length _ hst).trans List.length_replicate
  -- every output register was read, so it is in range and marked
  have hall := fun o ho => (forall_of_mapM_eq_some hrd o ho).elim fun _ hv => hrel.isSet hv
  exact validate_eq_ok.mpr ⟨hin, hout, validateOutputs_eq_ok.mpr fun o ho => hl ▸ (hall o ho).1, hlen,
    setF, hvi, validateOutputsSet_eq_ok.mpr fun o ho => (hall o ho).2⟩

theorem all_zero_false (l : List Nat) (h : 1 ≤ l.sum) : l.all (· == 0) = false := by
  induction l with
  | nil => simp at h
  | cons a l ih =>
    simp only [List.all_cons, List.sum_cons] at h ⊢
    by_cases ha : a = 0
    · subst ha
      simp only [Nat.zero_add] at h
      simp [ih h]
    · simp [ha]

/-- a valid circuit has at least one input wire: otherwise its first gate, or if there is none its
first output, would refer to a wire `< 0` -/
theorem totalInputs_pos (c : Circuit) (hv : c.validate = .ok ()) : 1 ≤ c.totalInputs := by
  obtain ⟨_, hg, hne, ho, _⟩ := Circuit.validate_ok hv
  rcases Nat.eq_zero_or_pos c.totalInputs with h0 | h
  · exfalso
    obtain ⟨o, hmem⟩ := List.exists_mem_of_ne_nil _ hne
    have hgl : 0 < c.gates.length := by
      have := ho o hmem
      simp only [Circuit.wiresLen, h0] at this
      omega
    have hok := Circuit.validateGates_eq_ok.mp hg _ _ (List.getElem?_eq_getElem hgl)
    rw [h0] at hok
    cases hgate : c.gates[0] <;> simp [hgate, Circuit.gateOk] at hok
  · exact h

end Reg
end GV
