import GarbleVerif.Model.Scan
/-! Location bookkeeping of the scanner: every location it produces has start ≤ end, and its
line counter equals the number of newlines consumed. The last part (`splitNL_length`, `rustLines_length`,
`renderLine_some`, `renderLines_some`) is the totality of `prettify_meta` behind `C07_render_total`. -/
namespace GV
namespace Scan

def nl (cs : List Char) : Nat := cs.count '\n'

@[simp] theorem nl_nil : nl [] = 0 := rfl
theorem nl_cons (c : Char) (cs : List Char) : nl (c :: cs) = (if c = '\n' then 1 else 0) + nl cs := by
  simp only [nl, List.count_cons, Nat.add_comm, beq_iff_eq]
theorem nl_append (a b : List Char) : nl (a ++ b) = nl a + nl b := by
  unfold nl; exact List.count_append

def MetaOK (m : Meta) (line : Nat) : Prop := Pos.le m.start m.stop ∧ m.stop.line ≤ line

theorem MetaOK.mono {m : Meta} {l l' : Nat} (h : MetaOK m l) (hl : l ≤ l') : MetaOK m l' :=
  ⟨h.1, Nat.le_trans h.2 hl⟩

theorem Pos.le_refl (p : Pos) : Pos.le p p := Or.inr ⟨rfl, Nat.le_refl _⟩
theorem Pos.le_col (l c n : Nat) : Pos.le ⟨l, c⟩ ⟨l, c + n⟩ := Or.inr ⟨rfl, by simp⟩
theorem Pos.le_trans {a b c : Pos} (h1 : Pos.le a b) (h2 : Pos.le b c) : Pos.le a c := by
  rcases h1 with h1 | ⟨h1, h1'⟩ <;> rcases h2 with h2 | ⟨h2, h2'⟩
  · exact Or.inl (Nat.lt_trans h1 h2)
  · exact Or.inl (h2 ▸ h1)
  · exact Or.inl (h1 ▸ h2)
  · exact Or.inr ⟨h1.trans h2, Nat.le_trans h1' h2'⟩

/-- the scanner's invariant: the pending token start is not after the cursor, and every location
recorded so far is well-formed and lies on a line already reached -/
structure Inv (s : St) : Prop where
  start_le : Pos.le s.start ⟨s.line, s.col⟩
  toks : ∀ tm, tm ∈ s.tokens → MetaOK tm.2 s.line
  errs : ∀ em, em ∈ s.errors → MetaOK em.2 s.line

theorem inv_init : Inv St.init :=
  ⟨Pos.le_refl _, by simp [St.init], by simp [St.init]⟩

theorem inv_move {s : St} (h : Inv s) (l c : Nat) (hle : Pos.le ⟨s.line, s.col⟩ ⟨l, c⟩) :
    Inv { s with line := l, col := c } :=
  have hl : s.line ≤ l := hle.elim Nat.le_of_lt fun h => Nat.le_of_eq h.1
  ⟨Pos.le_trans h.start_le hle, fun tm htm => (h.toks tm htm).mono hl, fun em hem => (h.errs em hem).mono hl⟩

theorem inv_advN {s : St} (h : Inv s) (n : Nat) : Inv (advN s n) :=
  inv_move h s.line (s.col + n) (Pos.le_col ..)

theorem inv_setStart {s : St} (h : Inv s) : Inv { s with start := ⟨s.line, s.col⟩ } :=
  ⟨Pos.le_refl _, h.toks, h.errs⟩

theorem inv_pushToken {s : St} (h : Inv s) (t : String) : Inv (pushToken s t) := by
  unfold pushToken
  dsimp only
  refine ⟨Pos.le_refl _, ?_, ?_⟩
  · intro tm htm
    simp only [List.mem_cons] at htm
    rcases htm with rfl | htm
    · -- the token ends at the cursor, or one column after it
      refine ⟨Pos.le_trans h.start_le (Or.inr ⟨rfl, ?_⟩), Nat.le_refl _⟩
      dsimp only
      split
      · exact Nat.le_succ _
      · exact Nat.le_refl _
    · exact h.toks tm htm
  · exact h.errs

theorem inv_pushError {s : St} (h : Inv s) (k : ErrKind) : Inv (pushError s k) := by
  unfold pushError
  dsimp only
  refine ⟨h.start_le, h.toks, ?_⟩
  intro em hem
  simp only [List.mem_cons] at hem
  rcases hem with rfl | hem
  · exact ⟨Pos.le_refl _, Nat.le_refl _⟩
  · exact h.errs em hem

@[simp] theorem advN_line (s : St) (n : Nat) : (advN s n).line = s.line := rfl
@[simp] theorem pushToken_line (s : St) (t : String) : (pushToken s t).line = s.line := rfl
@[simp] theorem pushError_line (s : St) (k : ErrKind) : (pushError s k).line = s.line := rfl

theorem spanP_nl (p : Char → Bool) (hp : p '\n' = false) (cs : List Char) :
    nl (spanP p cs).2 = nl cs := by
  induction cs with
  | nil => simp [spanP]
  | cons c cs ih =>
    simp only [spanP]
    split
    · rename_i hc
      have : c ≠ '\n' := by intro h; subst h; simp [hp] at hc
      simp [nl_cons, this, ih]
    · rfl

theorem isDigit_nl : isDigit '\n' = false := by decide
theorem isAlnum_nl : isAlnum '\n' = false := by decide

theorem isPrefixOf_eq_append {a b : List Char} (h : a.isPrefixOf b = true) : b = a ++ b.drop a.length :=
  (List.prefix_iff_eq_append.mp (List.isPrefixOf_iff_prefix.mp h)).symm

theorem matchOp_spec (opts : List (List Char × String)) (hopts : ∀ o, o ∈ opts → nl o.1 = 0)
    (rest : List Char) (s : St) (h : Inv s) :
    Inv (matchOp opts rest s).2 ∧ (matchOp opts rest s).2.line = s.line ∧
    nl (matchOp opts rest s).1 = nl rest := by
  fun_induction matchOp opts rest s with
  | case1 => exact ⟨h, rfl, rfl⟩
  | case2 suf name more rest s hp =>
    refine ⟨inv_pushToken (inv_advN h _) _, rfl, ?_⟩
    have := congrArg nl (isPrefixOf_eq_append hp)
    rw [nl_append, hopts (suf, name) (List.mem_cons_self ..), Nat.zero_add] at this
    exact this.symm
  | case3 suf name more rest s hp ih => exact ih (fun o ho => hopts o (List.mem_cons_of_mem _ ho)) h

theorem opList_nl : ∀ e, e ∈ opList → ∀ o, o ∈ e.2 → nl o.1 = 0 := by decide

theorem opTable_nl (c : Char) (opts : List (List Char × String)) (h : opTable c = some opts) :
    ∀ o, o ∈ opts → nl o.1 = 0 := by
  unfold opTable at h
  cases hf : opList.find? (fun e => e.1 == c) with
  | none => simp [hf] at h
  | some e =>
    simp [hf] at h
    subst h
    exact opList_nl e (List.mem_of_find?_eq_some hf)

theorem blockIter3_spec (cs : List Char) (level line col : Nat) :
    Pos.le ⟨line, col⟩ ⟨(blockIter3 cs level line col).2.2.1, (blockIter3 cs level line col).2.2.2⟩ ∧
    (blockIter3 cs level line col).2.2.1 + nl (blockIter3 cs level line col).1 = line + nl cs := by
  fun_cases blockIter3 cs level line col
  · simp [Pos.le]
  · simp [Pos.le, nl_cons]; omega
  · simp [Pos.le]
  · simp [Pos.le, nl_cons, *]

/-- a `*` or `/` that a test of the block-comment loop consumed: one column, no line -/
theorem blockIter_skip {c : Char} {r out : List Char} {line col l' c' : Nat} (hc : c ≠ '\n')
    (h : Pos.le ⟨line, col + 1⟩ ⟨l', c'⟩ ∧ l' + nl out = line + nl r) :
    Pos.le ⟨line, col⟩ ⟨l', c'⟩ ∧ l' + nl out = line + nl (c :: r) :=
  ⟨Pos.le_trans (Pos.le_col _ _ 1) h.1, by rw [nl_cons, if_neg hc, Nat.zero_add]; exact h.2⟩

theorem blockIter2_spec (cs : List Char) (level line col : Nat) :
    Pos.le ⟨line, col⟩ ⟨(blockIter2 cs level line col).2.2.1, (blockIter2 cs level line col).2.2.2⟩ ∧
    (blockIter2 cs level line col).2.2.1 + nl (blockIter2 cs level line col).1 = line + nl cs := by
  fun_cases blockIter2 cs level line col
  · exact blockIter3_spec ..
  · exact blockIter_skip (by decide) (blockIter3_spec ..)
  · simp [Pos.le, nl_cons]
  · exact blockIter_skip (by decide) (blockIter3_spec ..)
  · exact blockIter3_spec ..

theorem blockIter_spec (cs : List Char) (level line col : Nat) :
    Pos.le ⟨line, col⟩ ⟨(blockIter cs level line col).2.2.1, (blockIter cs level line col).2.2.2⟩ ∧
    (blockIter cs level line col).2.2.1 + nl (blockIter cs level line col).1 = line + nl cs := by
  fun_cases blockIter cs level line col
  · exact blockIter2_spec ..
  · exact blockIter_skip (by decide) (blockIter2_spec ..)
  · simp [Pos.le, nl_cons]
  · exact blockIter_skip (by decide) (blockIter2_spec ..)
  · exact blockIter2_spec ..

theorem blockLoop_spec (cs : List Char) (level line col : Nat) :
    Pos.le ⟨line, col⟩ ⟨(blockLoop cs level line col).2.1, (blockLoop cs level line col).2.2⟩ ∧
    (blockLoop cs level line col).2.1 + nl (blockLoop cs level line col).1 = line + nl cs := by
  fun_induction blockLoop cs level line col with
  | case1 cs level line col r h => exact blockIter_spec cs level line col
  | case2 cs level line col r h ih =>
    have h1 := blockIter_spec cs level line col
    exact ⟨Pos.le_trans h1.1 ih.1, by rw [ih.2]; exact h1.2⟩

theorem scanUnsigned_spec (c : Char) (rest : List Char) (s : St) (h : Inv s) :
    Inv (scanUnsigned c rest s).2 ∧ (scanUnsigned c rest s).2.line = s.line ∧
    nl (scanUnsigned c rest s).1 = nl rest := by
  have h1 := spanP_nl isDigit isDigit_nl rest
  have h2 := (spanP_nl isAlnum isAlnum_nl (spanP isDigit rest).2).trans h1
  fun_cases scanUnsigned c rest s
  · exact ⟨inv_pushToken (inv_advN (inv_advN h _) _) _, rfl, h2⟩
  · exact ⟨inv_pushToken (inv_pushError (inv_advN (inv_advN h _) _) _) _, rfl, h2⟩
  · exact ⟨inv_pushError (inv_advN h _) _, rfl, h1⟩

theorem scanSigned_spec (rest : List Char) (s : St) (h : Inv s) :
    Inv (scanSigned rest s).2 ∧ (scanSigned rest s).2.line = s.line ∧
    nl (scanSigned rest s).1 = nl rest := by
  have h1 := spanP_nl isDigit isDigit_nl rest
  have h2 := (spanP_nl isAlnum isAlnum_nl (spanP isDigit rest).2).trans h1
  fun_cases scanSigned rest s
  · exact ⟨inv_pushToken (inv_advN (inv_advN h _) _) _, rfl, h2⟩
  · exact ⟨inv_pushToken (inv_pushError (inv_advN (inv_advN h _) _) _) _, rfl, h2⟩
  · exact ⟨inv_pushError (inv_advN h _) _, rfl, h1⟩

/-- a scanner that stays on its line and takes no newline from the input, after a first character
that is no newline -/
theorem stays_on_line {c : Char} {rest : List Char} {s : St} {r : List Char × St} (hc : c ≠ '\n')
    (h : Inv r.2 ∧ r.2.line = s.line ∧ nl r.1 = nl rest) :
    Inv r.2 ∧ r.2.line + nl r.1 = s.line + nl (c :: rest) :=
  ⟨h.1, by rw [h.2.1, h.2.2, nl_cons, if_neg hc, Nat.zero_add]⟩

theorem scanOne_spec (c : Char) (rest : List Char) (s : St) (h : Inv s) :
    Inv (scanOne c rest s).2 ∧
    (scanOne c rest s).2.line + nl (scanOne c rest s).1 = s.line + nl (c :: rest) := by
  -- the branches of `scanOne` in the order of its text: only a newline and `/* .. */` leave the line
  fun_cases scanOne c rest s
  · have : c ≠ '\n' := by rcases ‹_ ∨ _› with rfl | rfl | rfl <;> decide
    exact stays_on_line this ⟨inv_setStart h, rfl, rfl⟩
  · subst ‹c = '\n'›
    exact ⟨inv_move h _ _ (Or.inl (Nat.lt_succ_self _)), by simp [nl_cons]; omega⟩
  · exact stays_on_line ‹_› (matchOp_spec _ (opTable_nl c _ ‹_›) rest s h)
  · exact stays_on_line ‹_› ⟨inv_pushToken (inv_advN h _) _, rfl, by simp [nl_cons]⟩
  · exact stays_on_line ‹_› ⟨inv_advN h _, rfl, (spanP_nl _ (by decide) _).trans (by simp [nl_cons])⟩
  · have := blockLoop_spec ‹List Char› 1 s.line (s.col + 1)
    exact ⟨inv_move h _ _ (Pos.le_trans (Pos.le_col _ _ 1) this.1), by simpa [nl_cons, ‹¬c = '\n'›] using this.2⟩
  · exact stays_on_line ‹_› ⟨inv_pushToken h _, rfl, rfl⟩
  · exact stays_on_line ‹_› ⟨inv_pushToken (inv_advN h _) _, rfl, by simp [nl_cons]⟩
  · exact stays_on_line ‹_› ⟨inv_pushToken (inv_advN h _) _, rfl, by simp [nl_cons]⟩
  · exact stays_on_line ‹_› (scanSigned_spec _ s h)
  · exact stays_on_line ‹_› ⟨inv_pushToken h _, rfl, rfl⟩
  · exact stays_on_line ‹_› ⟨inv_pushToken h _, rfl, rfl⟩
  · exact stays_on_line ‹_› (scanUnsigned_spec c rest s h)
  · exact stays_on_line ‹_› ⟨inv_pushToken (inv_advN h _) _, rfl, spanP_nl isAlnum isAlnum_nl rest⟩
  · exact stays_on_line ‹_› ⟨inv_pushError h _, rfl, rfl⟩

theorem scanLoop_spec (cs : List Char) (s : St) (h : Inv s) :
    Inv (scanLoop cs s) ∧ (scanLoop cs s).line = s.line + nl cs := by
  fun_induction scanLoop cs s with
  | case1 s => exact ⟨h, by simp⟩
  | case2 s c rest r ih =>
    have h1 := scanOne_spec c rest s h
    have := ih (inv_advN h1.1 1)
    exact ⟨this.1, this.2.trans h1.2⟩

theorem splitNL_length (cs : List Char) : (splitNL cs).length = nl cs + 1 := by
  fun_induction splitNL cs with
  | case1 => rfl
  | case2 cs ih => simp [nl_cons, ih]; omega
  | case3 c cs hc p ps heq ih => rw [heq] at ih; simpa [nl_cons, hc] using ih
  | case4 c cs hc heq ih => rw [heq] at ih; cases ih

theorem rustLines_length (cs : List Char) : nl cs ≤ (rustLines cs).length := by
  unfold rustLines
  have := splitNL_length cs
  simp only [List.length_append, List.length_map, List.length_dropLast]
  omega

theorem renderLine_some (lines : List (List Char)) (m : Meta) (l : Int)
    (h : m.stop.line ≤ lines.length) : (renderLine lines m l).isSome := by
  fun_cases renderLine lines m l
  · -- `none` needs a highlighted line that is neither the last of the location nor a line of the text
    rename_i hhl _ hcol
    simp +zetaDelta only [decide_eq_true_eq] at hhl hcol
    split at hcol
    · cases hcol
    · split at hcol
      · cases hcol
      · omega
  · rfl
  · rfl

theorem renderLines_some (lines : List (List Char)) (m : Meta) (ls : List Int)
    (h : m.stop.line ≤ lines.length) : (renderLines lines m ls).isSome := by
  induction ls with
  | nil => rfl
  | cons l ls ih =>
    simp only [renderLines]
    have h1 := renderLine_some lines m l h
    cases ha : renderLine lines m l with
    | none => simp [ha] at h1
    | some a =>
      cases hb : renderLines lines m ls with
      | none => simp [hb] at ih
      | some b => rfl

end Scan
end GV
