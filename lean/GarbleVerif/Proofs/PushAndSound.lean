import GarbleVerif.Proofs.PushSound
/-! `push_and`, like `push_xor` in PushSound: `optimize_and`, one lemma per rule block (`andRule1_post` … `andRule3_post`; rule
blocks 2 and 3 call `push_xor`, hence the second `RecOk`), `pushAnd_post`. -/
namespace GV
namespace Builder

theorem optimizeAnd_sound {b : Builder} (hb : WF b) (x y w : Nat) (hx : x < b.counter) (hy : y < b.counter)
    (h : b.optimizeAnd x y = some w) : Has b w fun inp => b.sem inp x && b.sem inp y := by
  have c2 := hb.two_le_counter
  unfold optimizeAnd at h
  rcases of_ite_eq_some h with ⟨h0, rfl⟩ | ⟨-, h⟩
  · refine ⟨by omega, fun inp _ => ?_⟩
    rcases h0 with rfl | rfl
    · rw [sem_zero, Bool.false_and]
    · rw [sem_zero, Bool.and_false]
  rcases of_ite_eq_some h with ⟨rfl, rfl⟩ | ⟨-, h⟩
  · exact ⟨hy, fun inp _ => by rw [sem_one, Bool.true_and]⟩
  rcases of_ite_eq_some h with ⟨h1, rfl⟩ | ⟨-, h⟩
  · refine ⟨hx, fun inp _ => ?_⟩
    rcases h1 with rfl | rfl
    · rw [sem_one, Bool.and_true]
    · rw [Bool.and_self]
  -- one operand is the recorded negation of the other
  have viaNeg : ∀ {a n o : Nat}, b.negated[a]? = some n → (if n = o then some 0 else none) = some w →
      Has b w fun inp => b.sem inp a && b.sem inp o := by
    intro a n o han h
    rcases of_ite_eq_some h with ⟨rfl, rfl⟩ | ⟨-, h⟩
    · exact ⟨by omega, fun inp hi => by rw [sem_zero, (neg_has hb han).sem inp hi]; cases b.sem inp a <;> rfl⟩
    · cases h
  simp only at h
  split at h
  · rename_i w' hv
    cases h
    split at hv
    · exact viaNeg ‹_› hv
    · split at hv
      · exact (viaNeg ‹_› hv).congr fun inp _ => Bool.and_comm _ _
      · cases hv
  · exact getCached_sound hb _ w h

/-- what is left when `optimize_and` finds nothing: two different non-constant wires -/
theorem optimizeAnd_none {b : Builder} {x y : Nat} (h : b.optimizeAnd x y = none) :
    (x ≠ y ∧ 2 ≤ x ∧ 2 ≤ y) ∧ b.getCached (.and x y) = none := by
  unfold optimizeAnd at h
  obtain ⟨h0, h⟩ := of_ite_eq_none h
  obtain ⟨hx1, h⟩ := of_ite_eq_none h
  obtain ⟨h2, h⟩ := of_ite_eq_none h
  obtain ⟨hx0, hy0⟩ := not_or.mp h0
  obtain ⟨hy1, hxy⟩ := not_or.mp h2
  refine ⟨⟨hxy, Nat.one_lt_iff_ne_zero_and_ne_one.mpr ⟨hx0, hx1⟩,
    Nat.one_lt_iff_ne_zero_and_ne_one.mpr ⟨hy0, hy1⟩⟩, ?_⟩
  simp only at h
  split at h
  · cases h
  · exact h

/-- with de-duplication on, a cache miss in both orders means that no AND gate over this pair exists yet -/
theorem fresh_pair {b : Builder} (hb : WF b) {x y : Nat} (hc : b.cacheOn = true) (hm : b.getCached (.and x y) = none)
    (i x' y' : Nat) (hi : b.gates[i]? = some (BGate.and x' y')) : ¬ samePair x y x' y' := by
  intro hs
  have hcov := hb.cacheCover hc i x' y' hi
  simp only [getCached, hc, Bool.not_true, Bool.false_eq_true, if_false] at hm
  cases h1 : b.cache[BGate.and x y]? with
  | some w => simp [h1] at hm
  | none =>
    simp only [h1] at hm
    rcases hs with ⟨rfl, rfl⟩ | ⟨rfl, rfl⟩
    · rw [h1] at hcov; cases hcov
    · rw [hm] at hcov; cases hcov

theorem pushAndGate_post {b : Builder} (hb : WF b) (x y : Nat) (hx : x < b.counter) (hy : y < b.counter)
    (hn : (x ≠ y ∧ 2 ≤ x ∧ 2 ≤ y) ∧ b.getCached (.and x y) = none) :
    Post b (· && ·) x y (b.pushGate (.and x y)) :=
  (pushGate_spec hb (.and x y) ⟨hx, hy⟩ (fun _ _ h => by cases h; exact hn.1)
    (fun hc _ _ h => by cases h; exact fresh_pair hb hc hn.2)).post

/-- an AND gate absorbs a further AND with one of its operands -/
theorem and_absorb_sem (f : Nat → Bool) {x x1 x2 y : Nat} (sx : f x = (f x1 && f x2)) (e : x1 = y ∨ x2 = y) :
    (f x && f y) = f x := by
  rw [sx]
  rcases e with rfl | rfl
  · rw [Bool.and_right_comm, Bool.and_self]
  · rw [Bool.and_assoc, Bool.and_self]

/-- an AND gate together with the negation of one of its operands is false -/
theorem and_neg_sem (f : Nat → Bool) {x x1 x2 y n : Nat} (sx : f x = (f x1 && f x2)) (hn : f n = !f y)
    (e : x1 = n ∨ x2 = n) : (f x && f y) = false := by
  rw [sx]
  rcases e with rfl | rfl
  · rw [hn, Bool.and_right_comm, Bool.not_and_self, Bool.false_and]
  · rw [hn, Bool.and_assoc, Bool.not_and_self, Bool.and_false]

/-- `(x1 & x2) & (y1 & y2)` where `y1` (or `y2`) is an operand of `x`: `x & y2` (or `x & y1`) -/
theorem andRule1_post {rec : Rec} (hrec : RecOk (· && ·) rec) {b : Builder} (hb : WF b) (x y : Nat)
    (hx : x < b.counter) (hy : y < b.counter) (r : Nat × Builder)
    (h : andRule1 rec b x y = some r) : Post b (· && ·) x y r := by
  unfold andRule1 at h
  split at h
  · rename_i x1 x2 y1 y2 hgx hgy
    have sx := fun inp hi => sem_and_gate hb (inp := inp) hi hgx
    have sy := fun inp hi => sem_and_gate hb (inp := inp) hi hgy
    obtain ⟨hy1, hy2⟩ := gate_bounds hb hgy
    rcases of_ite_eq_some h with ⟨e, rfl⟩ | ⟨-, h⟩
    · refine (hrec b x y2 hb hx (Nat.lt_trans hy2 hy)).congr fun inp hi => ?_
      rw [sy inp hi, ← Bool.and_assoc, and_absorb_sem (b.sem inp) (sx inp hi) e]
    rcases of_ite_eq_some h with ⟨e, rfl⟩ | ⟨-, h⟩
    · refine (hrec b x y1 hb hx (Nat.lt_trans hy1 hy)).congr fun inp hi => ?_
      rw [sy inp hi, Bool.and_left_comm, and_absorb_sem (b.sem inp) (sx inp hi) e, Bool.and_comm (b.sem inp y1)]
    · cases h
  · cases h

/-- `x` is a gate: `(x1 & x2) & y` with `y` an operand of `x` or the negation of one; `(x1 ^ x2) & y`
distributed over cached `x1 & y`, `x2 & y` -/
theorem andRule2_post {xrec : Rec} (hrec : RecOk (· ^^ ·) xrec) {b : Builder} (hb : WF b) (x y : Nat)
    (hx : x < b.counter) (r : Nat × Builder)
    (h : andRule2 xrec b x y = some r) : Post b (· && ·) x y r := by
  have c2 := hb.two_le_counter
  unfold andRule2 at h
  split at h
  · rename_i x1 x2 hgx
    have sx := fun inp hi => sem_and_gate hb (inp := inp) hi hgx
    rcases of_ite_eq_some h with ⟨e, rfl⟩ | ⟨-, h⟩
    · exact Post.of_same hb ⟨hx, fun inp hi => (and_absorb_sem (b.sem inp) (sx inp hi) e).symm⟩
    split at h
    · rename_i yn hyn
      rcases of_ite_eq_some h with ⟨e, rfl⟩ | ⟨-, h⟩
      · exact Post.of_same hb ⟨by omega, fun inp hi => by
          rw [sem_zero, and_neg_sem (b.sem inp) (sx inp hi) ((neg_has hb hyn).sem inp hi) e]⟩
      · cases h
    · cases h
  · rename_i x1 x2 hgx
    split at h
    · rename_i p q hp hq
      cases h
      have cp := getCached_sound hb _ p hp
      have cq := getCached_sound hb _ q hq
      refine (hrec b p q hb cp.1 cq.1).congr fun inp hi => ?_
      rw [cp.2 inp hi, cq.2 inp hi, gateVal_and, gateVal_and, sem_xor_gate hb hi hgx, Bool.and_xor_distrib_right]
    · cases h
  · cases h

/-- The mirror image of `andRule2_post`. (It does not follow from it by exchanging the operands, as `xorRule3_post`
does: the cache is asked for `x & y1`, which may be another wire than the one found for `y1 & x`.) -/
theorem andRule3_post {xrec : Rec} (hrec : RecOk (· ^^ ·) xrec) {b : Builder} (hb : WF b) (x y : Nat)
    (hy : y < b.counter) (r : Nat × Builder)
    (h : andRule3 xrec b x y = some r) : Post b (· && ·) x y r := by
  have c2 := hb.two_le_counter
  unfold andRule3 at h
  split at h
  · rename_i y1 y2 hgy
    have sy := fun inp hi => sem_and_gate hb (inp := inp) hi hgy
    rcases of_ite_eq_some h with ⟨e, rfl⟩ | ⟨-, h⟩
    · exact Post.of_same hb ⟨hy, fun inp hi => by
        rw [Bool.and_comm, and_absorb_sem (b.sem inp) (sy inp hi) (e.imp Eq.symm Eq.symm)]⟩
    split at h
    · rename_i xn hxn
      rcases of_ite_eq_some h with ⟨e, rfl⟩ | ⟨-, h⟩
      · exact Post.of_same hb ⟨by omega, fun inp hi => by
          rw [sem_zero, Bool.and_comm,
            and_neg_sem (b.sem inp) (sy inp hi) ((neg_has hb hxn).sem inp hi) (e.imp Eq.symm Eq.symm)]⟩
      · cases h
    · cases h
  · rename_i y1 y2 hgy
    split at h
    · rename_i p q hp hq
      cases h
      have cp := getCached_sound hb _ p hp
      have cq := getCached_sound hb _ q hq
      refine (hrec b p q hb cp.1 cq.1).congr fun inp hi => ?_
      rw [cp.2 inp hi, cq.2 inp hi, gateVal_and, gateVal_and, sem_xor_gate hb hi hgy, Bool.and_xor_distrib_left]
    · cases h
  · cases h

theorem pushAnd_post (fuel xfuel : Nat) : RecOk (· && ·) (pushAnd fuel xfuel) := by
  induction fuel with
  | zero =>
    intro b x y hb hx hy
    unfold pushAnd
    split
    · exact Post.of_same hb (optimizeAnd_sound hb x y _ hx hy ‹_›)
    · exact pushAndGate_post hb x y hx hy (optimizeAnd_none ‹_›)
  | succ fuel ih =>
    intro b x y hb hx hy
    unfold pushAnd
    split
    · exact Post.of_same hb (optimizeAnd_sound hb x y _ hx hy ‹_›)
    · rename_i hnone
      simp only
      split
      · exact andRule1_post ih hb x y hx hy _ ‹_›
      · split
        · exact andRule2_post (pushXor_post xfuel) hb x y hx _ ‹_›
        · split
          · exact andRule3_post (pushXor_post xfuel) hb x y hy _ ‹_›
          · exact pushAndGate_post hb x y hx hy (optimizeAnd_none hnone)

end Builder
end GV
