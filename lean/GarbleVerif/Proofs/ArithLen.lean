import GarbleVerif.Proofs.ArithBE
/-! Widths: every operator circuit returns as many wires as its operands have, whatever the wires carry. Here are the
widths that no value theorem states: of the shifter for any amount, of checked negation, of `constMul` for every literal;
the others stand next to the value theorems of their operators. -/
namespace GV
namespace Arith

theorem shiftLayer_length (l : Bool) (f : Bool) (bits : List Bool) (k : Nat) (s : Bool) :
    (shiftLayer l f bits k s).length = bits.length := by
  simp [shiftLayer]

theorem shift_length (l sx : Bool) (x y : List Bool) : (shift l sx x y).1.length = x.length := by
  simp only [shift]
  exact foldl_count _ (fun _ (acc : List Bool × Nat) => acc.1.length = x.length)
    (fun _ acc _ h => (shiftLayer_length ..).trans h) _ 0 (x, 1) rfl

theorem negChecked_length (x : List Bool) : (negChecked x).1.length = x.length := neg_length x

theorem constMul_length (y : List Bool) (s : Bool) (n : Nat) (neg : Bool) : (constMul y s n neg).1.length = y.length := by
  have key : (constMul y s n false).1.length = y.length :=
    foldl_count (fun (acc : List Bool × Bool) (_ : Nat) =>
        let (sum, carry, prev) := add acc.1 y
        (sum, acc.2 || (if s then carry ^^ prev else carry)))
      (fun _ acc => acc.1.length = y.length) (fun _ acc _ h => (add_length acc.1 y h).trans h) _ 0 (y, false) rfl
  simp only [constMul]
  split
  · exact (negChecked_length _).trans key
  · exact key

end Arith
end GV
