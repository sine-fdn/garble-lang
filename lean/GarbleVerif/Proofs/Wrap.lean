import GarbleVerif.Model.SrcSem
import GarbleVerif.Proofs.Encoding
/-! `wrapTo`: the value of the low bits of an integer read in a type. -/
namespace GV
namespace Src

theorem wrapTo_range (k : IntTy) (n : Int) : k.lo ≤ wrapTo k n ∧ wrapTo k n ≤ k.hi := by
  obtain ⟨w, hw⟩ := k.bits_eq_succ
  have hH : (0 : Int) < (2 : Int) ^ w := Int.pow_pos (by decide)
  have h0 := Int.emod_nonneg n (Int.ne_of_gt (Int.mul_pos hH (by decide : (0 : Int) < 2)))
  have h1 := Int.emod_lt_of_pos n (Int.mul_pos hH (by decide : (0 : Int) < 2))
  simp only [wrapTo, IntTy.lo, IntTy.hi, hw, Nat.add_sub_cancel, Int.pow_succ]
  generalize (2 : Int) ^ w = H at *
  generalize n % (H * 2) = m at *
  cases k.signed
  · exact ⟨h0, Int.le_sub_one_of_lt h1⟩
  · simp only [Bool.true_and, if_true, decide_eq_true_eq]
    split <;> omega

theorem wrapTo_emod (k : IntTy) (n : Int) : wrapTo k n % (2 : Int) ^ k.bits = n % (2 : Int) ^ k.bits := by
  unfold wrapTo
  dsimp only
  split
  · rw [Int.sub_emod_right, Int.emod_emod]
  · exact Int.emod_emod ..

theorem wrapTo_eq_of_emod_eq (k : IntTy) (a b : Int) (h : a % (2 : Int) ^ k.bits = b % (2 : Int) ^ k.bits) :
    wrapTo k a = wrapTo k b := by
  unfold wrapTo
  simp only [h]

end Src
end GV
