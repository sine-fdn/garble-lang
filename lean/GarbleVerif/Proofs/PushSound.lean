import GarbleVerif.Proofs.BuilderSound
/-! `push_xor`: one lemma per block of rewrite rules (`xorRule1_post` … `xorRule3_post`), each under the hypothesis `RecOk`
that the recursive call is sound; `pushXor_post` closes the recursion by induction on the fuel. -/
namespace GV
namespace Builder

/-- `rec` (the function a rewrite rule calls on smaller operands) meets `Post` -/
def RecOk (op : Bool → Bool → Bool) (rec : Rec) : Prop :=
  ∀ (b : Builder) (x y : Nat), WF b → x < b.counter → y < b.counter → Post b op x y (rec b x y)

theorem xor_cancel (a p q : Bool) : ((a ^^ p) ^^ (a ^^ q)) = (p ^^ q) := by
  cases a <;> cases p <;> cases q <;> rfl

theorem xor_cancel_left (p q : Bool) : ((p ^^ q) ^^ p) = q := by
  cases p <;> cases q <;> rfl

/-- semantic core of the AND-factoring rule, for any orientation with a common operand -/
theorem and_factor_sem (f : Nat → Bool) {x1 x2 y1 y2 a1 a2 b1 b2 : Nat}
    (ha : (a1 = x1 ∧ a2 = x2) ∨ (a1 = x2 ∧ a2 = x1))
    (hb : (b1 = y1 ∧ b2 = y2) ∨ (b1 = y2 ∧ b2 = y1)) (hab : a1 = b1) :
    (f a1 && (f a2 ^^ f b2)) = ((f x1 && f x2) ^^ (f y1 && f y2)) := by
  rw [Bool.and_xor_distrib_left]
  rcases ha with ⟨rfl, rfl⟩ | ⟨rfl, rfl⟩ <;> rcases hb with ⟨rfl, rfl⟩ | ⟨rfl, rfl⟩ <;> subst hab
  · rfl
  · rw [Bool.and_comm (f b2)]
  · rw [Bool.and_comm (f a2)]
  · rw [Bool.and_comm (f a2), Bool.and_comm (f b2)]

/-- the two raw pushes of the AND-factoring rule: `a1 & (a2 ^ b2)` -/
theorem pushTwo_yields {b : Builder} (hb : WF b) (a1 a2 b2 : Nat)
    (h1 : a1 < b.counter) (h2 : a2 < b.counter) (h3 : b2 < b.counter) (h1n : 2 ≤ a1) :
    Yields b ((b.pushGate (.xor a2 b2)).2.pushGate (.and a1 (b.pushGate (.xor a2 b2)).1))
      fun inp => b.sem inp a1 && (b.sem inp a2 ^^ b.sem inp b2) := by
  obtain ⟨wf1, e1, hw⟩ := pushXorGate_yields hb h2 h3
  -- the new wire `b.counter` is an operand of no gate so far, so the AND over it is new
  have hfresh : ∀ (i x' y' : Nat), (b.pushGate (.xor a2 b2)).2.gates[i]? = some (BGate.and x' y') →
      ¬ samePair a1 b.counter x' y' := by
    intro i x' y' hi hs
    rcases pushGate_getElem? b _ _ i hi with ⟨hil, hio⟩ | ⟨_, hin⟩
    · have ops : x' < b.shift + i ∧ y' < b.shift + i := hb.ops i _ hio
      have hic : b.shift + i < b.counter := Nat.add_lt_add_left hil b.shift
      have ne : ∀ {o}, o < b.shift + i → b.counter ≠ o := fun h e => Nat.lt_irrefl _ (Nat.lt_trans h (e ▸ hic))
      exact hs.elim (fun h => ne ops.2 h.2) (fun h => ne ops.1 h.2)
    · cases hin
  obtain ⟨wf2, e2, hr⟩ := pushGate_spec wf1 (.and a1 b.counter)
    ⟨Nat.lt_of_lt_of_le h1 e1.counter_le, hw.1⟩
    (fun x y h => by cases h; exact ⟨Nat.ne_of_lt h1, h1n, Nat.le_trans h1n (Nat.le_of_lt h1)⟩)
    (fun _ x y h => by cases h; exact hfresh)
  refine ⟨wf2, e1.trans e2, hr.congr fun inp hi => ?_⟩
  rw [e2.shift, e1.shift] at hi
  have hv : (b.pushGate (.xor a2 b2)).2.sem inp b.counter = _ := hw.2 inp (by rw [e1.shift]; exact hi)
  rw [gateVal_and, hv, gateVal_xor, e1.sem_eq inp hi a1 h1]

theorem mem_andOrients {x1 x2 y1 y2 a1 a2 b1 b2 : Nat} (h : (a1, a2, b1, b2) ∈ andOrients x1 x2 y1 y2) :
    ((a1 = x1 ∧ a2 = x2) ∨ (a1 = x2 ∧ a2 = x1)) ∧ ((b1 = y1 ∧ b2 = y2) ∨ (b1 = y2 ∧ b2 = y1)) := by
  simp only [andOrients, List.mem_cons, Prod.mk.injEq, List.mem_nil_iff, or_false] at h
  rcases h with h | h | h | h <;> obtain ⟨rfl, rfl, rfl, rfl⟩ := h <;> simp

theorem gateAt_andNorm {b : Builder} (hb : WF b) {w x1 x2 : Nat} (hg : b.gateAt w = some (.and x1 x2)) :
    x1 ≠ x2 ∧ 2 ≤ x1 ∧ 2 ≤ x2 :=
  hb.andNorm _ x1 x2 (gateAt_eq_some hg).2

theorem xorRule1_post {rec : Rec} (hrec : RecOk (· ^^ ·) rec) {b : Builder} (hb : WF b) (x y : Nat)
    (hx : x < b.counter) (hy : y < b.counter) (r : Nat × Builder)
    (h : xorRule1 rec b x y = some r) : Post b (· ^^ ·) x y r := by
  unfold xorRule1 at h
  split at h
  · -- (x1 ^ x2) ^ (y1 ^ y2) with a common operand: the other two
    rename_i x1 x2 y1 y2 hgx hgy
    have sx := fun inp hi => sem_xor_gate hb (inp := inp) hi hgx
    have sy := fun inp hi => sem_xor_gate hb (inp := inp) hi hgy
    obtain ⟨hx1, hx2⟩ := gate_bounds hb hgx
    obtain ⟨hy1, hy2⟩ := gate_bounds hb hgy
    have fin : ∀ {p q : Nat}, p < x → q < y →
        (∀ inp, inp.length + 2 = b.shift → (b.sem inp p ^^ b.sem inp q) = (b.sem inp x ^^ b.sem inp y)) →
        Post b (· ^^ ·) x y (rec b p q) :=
      fun hp hq heq => (hrec b _ _ hb (Nat.lt_trans hp hx) (Nat.lt_trans hq hy)).congr heq
    rcases of_ite_eq_some h with ⟨e, rfl⟩ | ⟨-, h⟩
    · exact fin hx2 hy2 fun inp hi => by
        rw [sx inp hi, sy inp hi, e, xor_cancel]
    rcases of_ite_eq_some h with ⟨e, rfl⟩ | ⟨-, h⟩
    · exact fin hx2 hy1 fun inp hi => by
        rw [sx inp hi, sy inp hi, e, Bool.xor_comm (b.sem inp y1) (b.sem inp y2), xor_cancel]
    rcases of_ite_eq_some h with ⟨e, rfl⟩ | ⟨-, h⟩
    · exact fin hx1 hy2 fun inp hi => by
        rw [sx inp hi, sy inp hi, e, Bool.xor_comm (b.sem inp x1) (b.sem inp y1), xor_cancel]
    rcases of_ite_eq_some h with ⟨e, rfl⟩ | ⟨-, h⟩
    · exact fin hx1 hy1 fun inp hi => by
        rw [sx inp hi, sy inp hi, e, Bool.xor_comm (b.sem inp x1) (b.sem inp y2),
          Bool.xor_comm (b.sem inp y1) (b.sem inp y2), xor_cancel]
    · cases h
  · -- (x1 & x2) ^ (y1 & y2) with a common operand `a1`: `a1 & (a2 ^ b2)`, from the cache or pushed
    rename_i x1 x2 y1 y2 hgx hgy
    obtain ⟨hx1, hx2⟩ := gate_bounds hb hgx
    obtain ⟨hy1, hy2⟩ := gate_bounds hb hgy
    have hnx := gateAt_andNorm hb hgx
    have bx : ∀ {a : Nat}, a = x1 ∨ a = x2 → a < b.counter ∧ 2 ≤ a := fun h =>
      h.elim (· ▸ ⟨Nat.lt_trans hx1 hx, hnx.2.1⟩) (· ▸ ⟨Nat.lt_trans hx2 hx, hnx.2.2⟩)
    have by' : ∀ {a : Nat}, a = y1 ∨ a = y2 → a < b.counter := fun h =>
      h.elim (· ▸ Nat.lt_trans hy1 hy) (· ▸ Nat.lt_trans hy2 hy)
    have orient : ∀ {a1 a2 b1 b2 : Nat}, (a1, a2, b1, b2) ∈ andOrients x1 x2 y1 y2 → a1 = b1 →
        (a1 < b.counter ∧ 2 ≤ a1) ∧ a2 < b.counter ∧ b2 < b.counter ∧
        ∀ inp, inp.length + 2 = b.shift →
          (b.sem inp a1 && (b.sem inp a2 ^^ b.sem inp b2)) = (b.sem inp x ^^ b.sem inp y) := by
      intro a1 a2 b1 b2 hmem hab
      obtain ⟨ha, hbb⟩ := mem_andOrients hmem
      refine ⟨bx (ha.imp And.left And.left), (bx (ha.imp And.right And.right).symm).1,
        by' (hbb.imp And.right And.right).symm, fun inp hi => ?_⟩
      rw [sem_and_gate hb hi hgx, sem_and_gate hb hi hgy]
      exact and_factor_sem (b.sem inp) ha hbb hab
    simp only at h
    split at h
    · rename_i w hhit
      cases h
      obtain ⟨⟨a1, a2, b1, b2⟩, hmem, hf⟩ := List.exists_of_findSome?_eq_some hhit
      simp only at hf
      split at hf
      · rename_i hab
        obtain ⟨-, -, -, osem⟩ := orient hmem hab
        split at hf
        · rename_i ab hcab
          have c1 := getCached_sound hb _ ab hcab
          have c2 := getCached_sound hb _ w hf
          exact Post.of_same hb (c2.congr fun inp hi => by rw [gateVal_and, c1.2 inp hi, gateVal_xor, osem inp hi])
        · cases hf
      · cases hf
    · split at h
      · rename_i a1 a2 b1 b2 hfind
        cases h
        have hab : a1 = b1 := by simpa using List.find?_some hfind
        obtain ⟨⟨o1, on⟩, o2, o3, osem⟩ := orient (List.mem_of_find?_eq_some hfind) hab
        obtain ⟨wf, e, hr⟩ := pushTwo_yields hb a1 a2 b2 o1 o2 o3 on
        exact Yields.post ⟨wf, e, hr.congr fun inp hi => osem inp (by rw [← e.shift]; exact hi)⟩
      · cases h
  · cases h

/-- `x = x1 ^ x2` and one of `x1`, `x2` is `y` or the recorded negation of `y` -/
theorem xorRule2_post {rec : Rec} (hrec : RecOk (· ^^ ·) rec) {b : Builder} (hb : WF b) (x y : Nat)
    (hx : x < b.counter) (r : Nat × Builder)
    (h : xorRule2 rec b x y = some r) : Post b (· ^^ ·) x y r := by
  have c1 : 1 < b.counter := hb.two_le_counter
  unfold xorRule2 at h
  split at h
  · rename_i x1 x2 hgx
    have sx := fun inp hi => sem_xor_gate hb (inp := inp) hi hgx
    obtain ⟨hx1, hx2⟩ := gate_bounds hb hgx
    rcases of_ite_eq_some h with ⟨rfl, rfl⟩ | ⟨-, h⟩
    · exact Post.of_same hb ⟨Nat.lt_trans hx2 hx, fun inp hi => by rw [sx inp hi, xor_cancel_left]⟩
    rcases of_ite_eq_some h with ⟨rfl, rfl⟩ | ⟨-, h⟩
    · exact Post.of_same hb ⟨Nat.lt_trans hx1 hx, fun inp hi => by
        rw [sx inp hi, Bool.xor_comm (b.sem inp x1), xor_cancel_left]⟩
    split at h
    · rename_i yn hyn
      have hn := (neg_has hb hyn).sem
      rcases of_ite_eq_some h with ⟨rfl, rfl⟩ | ⟨-, h⟩
      · refine (hrec b x2 1 hb (Nat.lt_trans hx2 hx) c1).congr fun inp hi => ?_
        rw [sx inp hi, hn inp hi, sem_one, Bool.xor_true, Bool.not_xor, Bool.not_xor, xor_cancel_left]
      rcases of_ite_eq_some h with ⟨rfl, rfl⟩ | ⟨-, h⟩
      · refine (hrec b x1 1 hb (Nat.lt_trans hx1 hx) c1).congr fun inp hi => ?_
        rw [sx inp hi, hn inp hi, sem_one, Bool.xor_true, Bool.xor_not, Bool.not_xor, Bool.xor_comm (b.sem inp x1),
          xor_cancel_left]
      · cases h
    · cases h
  · cases h

/-- rule block 3 is rule block 2 with the operands exchanged -/
theorem xorRule3_eq (rec : Rec) (b : Builder) (x y : Nat) :
    xorRule3 rec b x y = xorRule2 (fun b p q => rec b q p) b y x := by
  unfold xorRule3 xorRule2
  cases b.gateAt y with
  | none => rfl
  | some g =>
    cases g with
    | and _ _ => rfl
    | xor y1 y2 =>
      cases b.negated[x]? with
      | none => simp only [eq_comm]
      | some xn => simp only [eq_comm]

theorem xorRule3_post {rec : Rec} (hrec : RecOk (· ^^ ·) rec) {b : Builder} (hb : WF b) (x y : Nat)
    (hy : y < b.counter) (r : Nat × Builder)
    (h : xorRule3 rec b x y = some r) : Post b (· ^^ ·) x y r := by
  rw [xorRule3_eq] at h
  have hrec' : RecOk (· ^^ ·) fun b p q => rec b q p := fun b p q wf hp hq =>
    (hrec b q p wf hq hp).congr fun _ _ => Bool.xor_comm _ _
  exact (xorRule2_post hrec' hb y x hy r h).congr fun _ _ => Bool.xor_comm _ _

theorem pushXor_post (fuel : Nat) : RecOk (· ^^ ·) (pushXor fuel) := by
  induction fuel with
  | zero =>
    intro b x y hb hx hy
    unfold pushXor
    split
    · exact Post.of_same hb (optimizeXor_sound hb x y _ hx hy ‹_›)
    · exact pushXorRaw_post hb x y hx hy
  | succ fuel ih =>
    intro b x y hb hx hy
    unfold pushXor
    split
    · exact Post.of_same hb (optimizeXor_sound hb x y _ hx hy ‹_›)
    · simp only
      split
      · exact xorRule1_post ih hb x y hx hy _ ‹_›
      · split
        · exact xorRule2_post ih hb x y hx _ ‹_›
        · split
          · exact xorRule3_post ih hb x y hy _ ‹_›
          · exact pushXorRaw_post hb x y hx hy

end Builder
end GV
