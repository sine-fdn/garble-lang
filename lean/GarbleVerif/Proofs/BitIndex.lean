import GarbleVerif.Model.BitSem
import GarbleVerif.Proofs.ArithCmp
import GarbleVerif.Proofs.ArithIndex
import GarbleVerif.Proofs.BitBridge
/-! The mux tree and the mux chains of array accesses, on the wires of a well-typed array: they select / replace the
slice of the element at the index. -/
namespace GV
namespace Bit
open Src Arith

theorem bitsOf_eq_natToBits (n : Nat) : ∀ w, bitsOf n w = natToBits n w
  | 0 => rfl
  | w + 1 => by simp [bitsOf, natToBits, bitsOf_eq_natToBits n w]

theorem chunks_length (sz : Nat) : ∀ (n : Nat) (bs : List Bool), (chunks sz n bs).length = n
  | 0, _ => rfl
  | n + 1, bs => by simp [chunks, chunks_length sz n]

theorem array_wires_length {x : List Bool} {te : Ty} {n : Nat} (h : x.length = (Ty.array te n).size) : x.length = n * te.size := by
  rw [h, Ty.size, Nat.mul_comm]

theorem chunks_sizes (sz : Nat) : ∀ (n : Nat) (bs : List Bool), bs.length = n * sz →
    ∀ a, a ∈ chunks sz n bs → a.length = sz
  | 0, _, _, a, h => by cases h
  | n + 1, bs, hl, a, h => by
    rw [Nat.succ_mul] at hl
    rcases List.mem_cons.mp h with rfl | h
    · exact List.length_take_of_le (hl ▸ Nat.le_add_left ..)
    · exact chunks_sizes sz n (bs.drop sz) (by rw [List.length_drop, hl, Nat.add_sub_cancel]) a h

theorem chunks_get (sz : Nat) : ∀ (n : Nat) (bs : List Bool) (i : Nat), i < n →
    (chunks sz n bs)[i]? = some ((bs.drop (i * sz)).take sz)
  | 0, _, i, h => by cases h
  | n + 1, bs, 0, _ => by rw [chunks, Nat.zero_mul]; rfl
  | n + 1, bs, i + 1, h => by
    rw [chunks, List.getElem?_cons_succ, chunks_get sz n (bs.drop sz) i (Nat.lt_of_succ_lt_succ h), List.drop_drop,
      Nat.succ_mul, Nat.add_comm sz]

/-- **reading**: on the wires of an array of `n` elements the mux tree yields the wires of element `idx` -/
theorem index_sel (sz n : Nat) (abits ibits : List Bool) (hl : abits.length = n * sz) (h : toNat ibits < n) :
    selected sz (indexMux ibits (chunks sz n abits)) = (abits.drop (toNat ibits * sz)).take sz := by
  have hg := indexMux_get sz ibits (chunks sz n abits) (chunks_sizes sz n abits hl) (by rw [chunks_length]; exact h)
  rw [chunks_get sz n abits _ h] at hg
  cases hc : indexMux ibits (chunks sz n abits) with
  | nil => rw [hc] at hg; simp at hg
  | cons el rest => rw [hc] at hg; simpa [selected] using hg

theorem index_sel_length (sz n : Nat) (abits ibits : List Bool) (hl : abits.length = n * sz) :
    (selected sz (indexMux ibits (chunks sz n abits))).length = sz := by
  cases hc : indexMux ibits (chunks sz n abits) with
  | nil => simp [selected]
  | cons el rest =>
    simp only [selected]
    exact indexMux_sizes sz ibits (chunks sz n abits) (chunks_sizes sz n abits hl) el (by rw [hc]; simp)

/-- **writing**: the mux chains replace the wires of element `idx` and keep all others -/
theorem writeAll_flat (sz : Nat) (idx sub : List Bool) (hs : sub.length = sz) :
    ∀ (n : Nat) (cur : List Bool) (i : Nat), cur.length = n * sz → i + n ≤ 2 ^ idx.length →
    (writeAll idx sub i (chunks sz n cur)).flatten =
      if i ≤ toNat idx ∧ toNat idx < i + n then
        cur.take ((toNat idx - i) * sz) ++ sub ++ cur.drop ((toNat idx - i) * sz + sz)
      else cur
  | 0, cur, i, hl, _ => by
    cases List.eq_nil_of_length_eq_zero (hl.trans (Nat.zero_mul sz))
    rw [if_neg (by omega)]
    rfl
  | n + 1, cur, i, hl, hi => by
    rw [Nat.succ_mul] at hl
    simp only [chunks, writeAll, List.flatten_cons]
    rw [zipWith_writeBit idx i (by omega) _ _ (by rw [List.length_take_of_le (hl ▸ Nat.le_add_left ..), hs]),
      writeAll_flat sz idx sub hs n (cur.drop sz) (i + 1) (by rw [List.length_drop, hl, Nat.add_sub_cancel]) (by omega)]
    generalize toNat idx = k
    by_cases hk : k = i
    · rw [if_pos hk, if_neg (by omega), if_pos (by omega), hk, Nat.sub_self, Nat.zero_mul, Nat.zero_add, List.take_zero,
        List.nil_append]
    · rw [if_neg hk]
      by_cases hin : i + 1 ≤ k ∧ k < i + 1 + n
      · -- the index points at element `d` of the rest, which is element `d + 1` here
        obtain ⟨d, rfl⟩ := Nat.exists_eq_add_of_le hin.1
        rw [if_pos hin, if_pos (by omega), Nat.add_sub_cancel_left, Nat.add_assoc i, Nat.add_sub_cancel_left,
          Nat.add_comm 1 d, Nat.succ_mul, List.drop_drop, Nat.add_comm (d * sz + sz) sz, Nat.add_comm (d * sz) sz,
          List.take_add, List.append_assoc, List.append_assoc, List.append_assoc]
      · rw [if_neg hin, if_neg (by omega), List.take_append_drop]

theorem writeAll_chunks (sz n : Nat) (idx sub cur : List Bool) (hs : sub.length = sz) (hcur : cur.length = n * sz)
    (hn : n ≤ 2 ^ idx.length) :
    (writeAll idx sub 0 (chunks sz n cur)).flatten =
      if toNat idx < n then cur.take (toNat idx * sz) ++ sub ++ cur.drop (toNat idx * sz + sz) else cur := by
  have := writeAll_flat sz idx sub hs n cur 0 hcur (by omega)
  simpa using this

/-- the bounds check of an access: the unsigned comparator against the length -/
theorem index_lt (ibits : List Bool) (n : Nat) (hn : n < 2 ^ ibits.length) :
    (comparator ibits false (natToBits n ibits.length) false).1 = decide (bitsToNat ibits < n) := by
  rw [comparator_unsigned ibits _ (by rw [natToBits_length]), toNat_natToBits, Nat.mod_eq_of_lt hn, toNat_eq_bitsToNat]

end Bit
end GV
