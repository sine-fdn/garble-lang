import GarbleVerif.Proofs.ArithCmp
/-!
# The restoring divider (`push_unsigned_division_circuit`) computes quotient and remainder, all widths;
signed division (`push_signed_division_circuit`) divides the magnitudes and puts the signs back
-/
namespace GV
namespace Arith

theorem toNat_set : ∀ (l : List Bool) (i : Nat) (b : Bool), l[i]? = some false →
    toNat (l.set i b) = toNat l + b.toNat * 2 ^ (l.length - (i + 1))
  | [], _, _, h => by simp at h
  | a :: l, 0, b, h => by
    cases (Option.some.inj h : a = false)
    rw [List.set_cons_zero, toNat_cons, toNat_cons, List.length_cons, Nat.add_sub_cancel, Bool.toNat_false,
      Nat.zero_mul, Nat.zero_add, Nat.add_comm]
  | a :: l, i + 1, b, h => by
    rw [List.set_cons_succ, toNat_cons, toNat_cons, List.length_set, toNat_set l i b h, List.length_cons,
      Nat.add_sub_add_right, Nat.add_assoc]

theorem zip_mux (keep : Bool) (r d : List Bool) (h : r.length = d.length) :
    ((r.zip d).map fun (p : Bool × Bool) => mux keep p.1 p.2) = if keep then r else d := by
  rw [List.map_zip_eq_zipWith]
  exact zipWith_mux keep r d h

theorem udivStep_length (y q r : List Bool) (s : Nat) (hq : q.length = y.length) (hr : r.length = y.length)
    (hs : s ≤ y.length) :
    (udivStep y (q, r) s).1.length = y.length ∧ (udivStep y (q, r) s).2.length = y.length := by
  have hys : (y.drop s ++ List.replicate s false).length = y.length := by
    simp only [List.length_append, List.length_drop, List.length_replicate]; omega
  have hsub := sub_length r (y.drop s ++ List.replicate s false) false (by rw [hr, hys])
  simp only [udivStep]
  exact ⟨by simp [hq], by simp [hsub, hr]⟩

/-- what one step of the divider does, arithmetically: it subtracts `y·2^s` from the remainder if that fits,
and records it in the (so far clear) bit of weight `2^s` of the quotient -/
theorem udivStep_spec (y q r : List Bool) (s : Nat) (hs : s < y.length) (hq : q.length = y.length)
    (hr : r.length = y.length) (hqf : q[y.length - s - 1]? = some false) :
    let st := udivStep y (q, r) s
    (∀ i, i ≠ y.length - s - 1 → st.1[i]? = q[i]?) ∧
    (if toNat y * 2 ^ s ≤ toNat r then
      toNat st.2 = toNat r - toNat y * 2 ^ s ∧ toNat st.1 = toNat q + 2 ^ s
     else toNat st.2 = toNat r ∧ toNat st.1 = toNat q) := by
  have hexp : q.length - (y.length - s - 1 + 1) = s := by
    rw [Nat.sub_add_cancel (Nat.sub_pos_of_lt hs), hq, Nat.sub_sub_self (Nat.le_of_lt hs)]
  have hrl := toNat_lt r
  rw [hr] at hrl
  obtain ⟨hov, hfit⟩ := toNat_drop_flag y s
  have hshl : r.length = (y.drop s ++ List.replicate s false).length := by
    rw [List.length_append, List.length_drop, List.length_replicate, hr, Nat.sub_add_cancel (Nat.le_of_lt hs)]
  have hshv : toNat (y.drop s ++ List.replicate s false) = toNat (y.drop s) * 2 ^ s := by
    rw [toNat_append, toNat_replicate_false, List.length_replicate, Nat.add_zero]
  obtain ⟨hlt, hdiff, hzl⟩ := sub_unsigned r (y.drop s ++ List.replicate s false) hshl
  have hset := toNat_set q (y.length - s - 1) (mux ((y.take s).foldl bOr false) false
    (!(sub r (y.drop s ++ List.replicate s false) false).2)) hqf
  simp only [udivStep]
  rw [zip_mux _ r _ hzl.symm, hset, hexp, mux_eq, bOr_eq]
  refine ⟨fun i hi => by rw [List.getElem?_set, if_neg (Ne.symm hi)], ?_⟩
  cases hovf : (y.take s).foldl bOr false with
  | true =>
    -- `y·2^s` does not even fit the width
    have hbig : 2 ^ y.length ≤ toNat y * 2 ^ s := by
      rw [← Nat.pow_sub_mul_pow 2 (Nat.le_of_lt hs)]; exact Nat.mul_le_mul_right _ (hov.1 hovf)
    rw [if_neg (Nat.not_le_of_lt (Nat.lt_of_lt_of_le hrl hbig))]
    simp
  | false =>
    rw [← hfit hovf, ← hshv]
    cases hc : (sub r (y.drop s ++ List.replicate s false) false).2 with
    | true =>
      rw [if_neg (Nat.not_le_of_lt (hlt.1 hc))]
      simp
    | false =>
      have hnl : ¬ toNat r < toNat (y.drop s ++ List.replicate s false) := fun h => by
        rw [hlt.2 h] at hc; cases hc
      rw [if_pos (Nat.le_of_not_lt hnl)]
      simp [hdiff hc]

theorem udiv_fold_length (y : List Bool) : ∀ (ss : List Nat), (∀ s, s ∈ ss → s ≤ y.length) →
    ∀ (q r : List Bool), q.length = y.length → r.length = y.length →
    (ss.foldl (udivStep y) (q, r)).1.length = y.length ∧ (ss.foldl (udivStep y) (q, r)).2.length = y.length
  | [], _, q, r, hq, hr => ⟨hq, hr⟩
  | s :: ss, hss, q, r, hq, hr => by
    have h1 := udivStep_length y q r s hq hr (hss s (by simp))
    exact udiv_fold_length y ss (fun s' h' => hss s' (by simp [h'])) _ _ h1.1 h1.2

theorem udiv_len (x y : List Bool) (h : x.length = y.length) :
    (udiv x y).1.length = x.length ∧ (udiv x y).2.length = x.length := by
  rw [h]
  exact udiv_fold_length y _ (by
    intro s hs
    simp only [List.mem_reverse, List.mem_range] at hs
    omega) _ _ (by simp [h]) h

/-- one step of restoring division on numbers: `X = Q·Y + R` is kept and the bound on `R` halves -/
theorem div_step {X Q Y R P Q' R' : Nat} (hX : X = Q * Y + R) (hlt : R < Y * P * 2)
    (hval : if Y * P ≤ R then R' = R - Y * P ∧ Q' = Q + P else R' = R ∧ Q' = Q) :
    X = Q' * Y + R' ∧ R' < Y * P := by
  split at hval <;> obtain ⟨rfl, rfl⟩ := hval
  · rw [Nat.add_mul, Nat.mul_comm P Y]
    omega
  · omega

/-- the divider after the steps for the shifts `k-1, …, 0`, started from a state in which the shifts
`≥ k` are done and the quotient bits of weight below `2^k` are still clear -/
theorem udiv_fold (y : List Bool) (X : Nat) : ∀ (k : Nat) (q r : List Bool), k ≤ y.length →
    q.length = y.length → r.length = y.length →
    (∀ i, i < k → q[y.length - i - 1]? = some false) →
    X = toNat q * toNat y + toNat r → toNat r < toNat y * 2 ^ k →
    let st := (List.range k).reverse.foldl (udivStep y) (q, r)
    X = toNat st.1 * toNat y + toNat st.2 ∧ toNat st.2 < toNat y := by
  intro k
  induction k with
  | zero =>
    intro q r _ _ _ _ hX hlt
    exact ⟨hX, by simpa using hlt⟩
  | succ k ih =>
    intro q r hk hq hr hqf
    obtain ⟨hq', hr'⟩ := udivStep_length y q r k hq hr (Nat.le_of_lt hk)
    obtain ⟨hsame, hval⟩ := udivStep_spec y q r k hk hq hr (hqf k (Nat.lt_succ_self k))
    have hclear : ∀ i, i < k → (udivStep y (q, r) k).1[y.length - i - 1]? = some false := fun i hi => by
      -- the step for shift `k` writes the position of weight `2^k` only; `i < k` names another position
      have hpos : y.length - i - 1 ≠ y.length - k - 1 :=
        Nat.ne_of_gt (Nat.sub_lt_sub_right (Nat.sub_pos_of_lt hk) (Nat.sub_lt_sub_left (Nat.lt_trans hi hk) hi))
      rw [hsame _ hpos]
      exact hqf i (Nat.lt_succ_of_lt hi)
    intro hX hlt
    rw [List.range_succ, List.reverse_append, List.reverse_singleton, List.singleton_append, List.foldl_cons]
    generalize udivStep y (q, r) k = st at *
    rw [Nat.pow_succ, ← Nat.mul_assoc] at hlt
    obtain ⟨hX', hlt'⟩ := div_step hX hlt hval
    exact ih st.1 st.2 (Nat.le_of_lt hk) hq' hr' hclear hX' hlt'

/-- **unsigned division, all widths**: for a non-zero divisor the divider returns the quotient and the
remainder of Euclidean division -/
theorem udiv_spec (x y : List Bool) (h : x.length = y.length) (hy : 0 < toNat y) :
    toNat x = toNat (udiv x y).1 * toNat y + toNat (udiv x y).2 ∧ toNat (udiv x y).2 < toNat y ∧
      (udiv x y).1.length = y.length ∧ (udiv x y).2.length = y.length := by
  have hx := toNat_lt x
  have hfold := udiv_fold y (toNat x) y.length (List.replicate y.length false) x (Nat.le_refl _) (by simp) h
    (fun i hi => by rw [List.getElem?_replicate, if_pos (by omega)])
    (by rw [toNat_replicate_false]; simp)
    (Nat.lt_of_lt_of_le hx (by rw [h]; exact Nat.le_mul_of_pos_left _ hy))
  rw [← h] at hfold ⊢
  exact ⟨hfold.1, hfold.2, udiv_len x y h⟩

theorem udiv_div_mod (x y : List Bool) (h : x.length = y.length) (hy : 0 < toNat y) :
    toNat (udiv x y).1 = toNat x / toNat y ∧ toNat (udiv x y).2 = toNat x % toNat y := by
  obtain ⟨h1, h2, _, _⟩ := udiv_spec x y h hy
  rw [h1, Nat.mul_comm, Nat.mul_add_div hy, Nat.div_eq_of_lt h2, Nat.mul_add_mod, Nat.mod_eq_of_lt h2]
  exact ⟨rfl, rfl⟩

/-! Signed division and signed multiplication work on magnitudes (`if sign then neg x else x`) and put the sign back
afterwards: `abs_cases` reads a signed number as sign and magnitude, `toInt_signMag` goes back. -/

theorem ite_neg_length (c : Bool) (x : List Bool) : (if c then neg x else x).length = x.length := by
  split <;> simp [neg_length]

theorem toInt_of_lt (bs : List Bool) (n : Nat) (hl : bs.length = n + 1) (h : toNat bs < 2 ^ n) :
    toInt bs = toNat bs := by
  rw [← Int.ofNat_lt, two_pow_cast] at h
  rw [toInt_eq_bmod, hl, bmod_eq_self _ n (by omega) h]

theorem toInt_neg_of_le (bs : List Bool) (n : Nat) (hl : bs.length = n + 1) (h : toNat bs ≤ 2 ^ n) :
    toInt (neg bs) = -(toNat bs : Int) := by
  have hpos : (0 : Int) < 2 ^ n := Int.pow_pos (by decide)
  rw [← Int.ofNat_le, two_pow_cast] at h
  rw [toInt_neg_toNat, hl, bmod_eq_self _ n (by omega) (by omega)]

theorem toInt_signMag (s : Bool) (m : List Bool) (n : Nat) (hl : m.length = n + 1) (hle : toNat m ≤ 2 ^ n)
    (hlt : s = false → toNat m < 2 ^ n) :
    toInt (if s then neg m else m) = if s then -(toNat m : Int) else toNat m := by
  cases s
  · exact toInt_of_lt m n hl (hlt rfl)
  · exact toInt_neg_of_le m n hl hle

theorem abs_cases (a : Bool) (rest : List Bool) :
    toNat (if a then neg (a :: rest) else (a :: rest)) ≤ 2 ^ rest.length ∧
    toInt (a :: rest) = (if a then -(toNat (if a then neg (a :: rest) else (a :: rest)) : Int)
      else (toNat (if a then neg (a :: rest) else (a :: rest)) : Int)) ∧
    (a = false → toNat (if a then neg (a :: rest) else (a :: rest)) < 2 ^ rest.length) := by
  have hr := toNat_lt rest
  cases a
  · simp only [Bool.false_eq_true, if_false, toInt_zext, toNat_cons, Bool.toNat_false]
    omega
  · have hv := neg_val (true :: rest)
    rw [toNat_cons, List.length_cons, Nat.pow_succ, Bool.toNat_true, Nat.one_mul, if_neg (by omega)] at hv
    simp only [if_true, hv, toInt_cons, ← two_pow_cast, Bool.toNat_true]
    generalize 2 ^ rest.length = P at *
    exact ⟨by omega, by omega, fun h => nomatch h⟩

/-- the magnitude of a signed number, as the divider sees it -/
theorem abs_val (a : Bool) (rest : List Bool) :
    (toNat (if a then neg (a :: rest) else (a :: rest)) : Int) = (toInt (a :: rest)).natAbs := by
  rw [(abs_cases a rest).2.1]
  cases a <;> simp

theorem sdiv_unfold (x y : List Bool) :
    sdiv x y =
      let xa := if x.headD false then neg x else x
      let ya := if y.headD false then neg y else y
      let qr := udiv xa ya
      (if (x.headD false ^^ y.headD false) then neg qr.1 else qr.1, if x.headD false then neg qr.2 else qr.2) := by
  simp only [sdiv]
  rw [zip_mux _ _ _ (neg_length x), zip_mux _ _ _ (neg_length y)]
  rw [zip_mux _ _ _ (neg_length _), zip_mux _ _ _ (neg_length _)]

theorem sdiv_len (x y : List Bool) (h : x.length = y.length) :
    (sdiv x y).1.length = x.length ∧ (sdiv x y).2.length = x.length := by
  obtain ⟨h1, h2⟩ := udiv_len (if x.headD false then neg x else x) (if y.headD false then neg y else y)
    (by rw [ite_neg_length, ite_neg_length, h])
  rw [ite_neg_length] at h1 h2
  rw [sdiv_unfold]
  exact ⟨by rw [ite_neg_length]; exact h1, by rw [ite_neg_length]; exact h2⟩

theorem tdiv_signMag (sa sb : Bool) (A B : Nat) :
    Int.tdiv (if sa then -(A : Int) else A) (if sb then -(B : Int) else B) =
      if sa ^^ sb then -((A / B : Nat) : Int) else ((A / B : Nat) : Int) := by
  cases sa <;> cases sb <;> simp [Int.neg_tdiv, Int.tdiv_neg]

theorem tmod_signMag (sa sb : Bool) (A B : Nat) :
    Int.tmod (if sa then -(A : Int) else A) (if sb then -(B : Int) else B) =
      if sa then -((A % B : Nat) : Int) else ((A % B : Nat) : Int) := by
  cases sa <;> cases sb <;> simp [Int.neg_tmod, Int.tmod_neg, ← Int.ofNat_tmod]

/-- the quotient of two magnitudes `≤ P` is below `P` unless it is `P / 1` -/
theorem div_lt_of_le {A B P : Nat} (hA : A ≤ P) (hP : 0 < P) (hB : 0 < B) (h : A = P → B ≠ 1) : A / B < P := by
  by_cases h1 : B = 1
  · rw [h1, Nat.div_one]
    exact Nat.lt_of_le_of_ne hA (fun he => h he h1)
  · have : A / B ≤ A / 2 := Nat.div_le_div_left (by omega) (by omega)
    omega

/-- **signed division, all widths** (`n + 1` bits): for a non-zero divisor, and except for `MIN / -1`
(which the compiled code reports as an overflow), the divider returns the quotient rounded towards zero
and the remainder with the sign of the dividend -/
theorem sdiv_spec' (a b : Bool) (x y : List Bool) (h : x.length = y.length) (hy : toInt (b :: y) ≠ 0) :
    (¬ (toInt (a :: x) = -(2 : Int) ^ x.length ∧ toInt (b :: y) = -1) →
      toInt (sdiv (a :: x) (b :: y)).1 = Int.tdiv (toInt (a :: x)) (toInt (b :: y))) ∧
    toInt (sdiv (a :: x) (b :: y)).2 = Int.tmod (toInt (a :: x)) (toInt (b :: y)) := by
  rw [sdiv_unfold, List.headD_cons, List.headD_cons]
  obtain ⟨hX, hxs, hXlt⟩ := abs_cases a x
  obtain ⟨hY, hys, _⟩ := abs_cases b y
  rw [← h] at hY
  have hlxa : _ = x.length + 1 := ite_neg_length a (a :: x)
  have hlya : _ = x.length + 1 := (ite_neg_length b (b :: y)).trans (congrArg (· + 1) h.symm)
  generalize (if a = true then neg (a :: x) else a :: x) = xa at *
  generalize (if b = true then neg (b :: y) else b :: y) = ya at *
  have hypos : 0 < toNat ya := by
    apply Nat.pos_of_ne_zero
    intro h0
    rw [h0] at hys
    exact hy (by rw [hys]; simp)
  obtain ⟨hq, hr⟩ := udiv_div_mod xa ya (by rw [hlxa, hlya]) hypos
  obtain ⟨hql, hrl⟩ := udiv_len xa ya (by rw [hlxa, hlya])
  rw [hlxa] at hql hrl
  have hpos := Nat.two_pow_pos x.length
  have hrlt : toNat (udiv xa ya).2 < 2 ^ x.length := by
    rw [hr]; exact Nat.lt_of_lt_of_le (Nat.mod_lt _ hypos) hY
  have hqle : toNat (udiv xa ya).1 ≤ 2 ^ x.length := by
    rw [hq]; exact Nat.le_trans (Nat.div_le_self _ _) hX
  rw [hxs, hys, tdiv_signMag, tmod_signMag, ← hq, ← hr]
  constructor
  · intro hmin
    refine toInt_signMag _ _ x.length hql hqle (fun hs => ?_)
    rw [hq]
    refine div_lt_of_le hX hpos hypos (fun hA hB => hmin ?_)
    -- a quotient of `2^n / 1` with equal signs is `MIN / -1`
    have ha : a = true := by cases a; exact absurd hA (Nat.ne_of_lt (hXlt rfl)); rfl
    have hb : b = true := by rw [ha] at hs; simpa using hs
    rw [ha, hb, hA, hB, two_pow_cast]
    exact ⟨rfl, rfl⟩
  · exact toInt_signMag _ _ x.length hrl (Nat.le_of_lt hrlt) (fun _ => hrlt)

theorem sdiv_spec (a b : Bool) (x y : List Bool) (h : x.length = y.length) (hy : toInt (b :: y) ≠ 0)
    (hmin : ¬ (toInt (a :: x) = -(2 : Int) ^ x.length ∧ toInt (b :: y) = -1)) :
    toInt (sdiv (a :: x) (b :: y)).1 = Int.tdiv (toInt (a :: x)) (toInt (b :: y)) ∧
    toInt (sdiv (a :: x) (b :: y)).2 = Int.tmod (toInt (a :: x)) (toInt (b :: y)) :=
  ⟨(sdiv_spec' a b x y h hy).1 hmin, (sdiv_spec' a b x y h hy).2⟩

/-! ### the conditions under which `binop` reports a panic for `/` and `%`, read as numbers -/

theorem foldl_allZero (l : List Bool) : ∀ acc : Bool,
    l.foldl (fun acc w => acc && !w) acc = (acc && decide (toNat l = 0)) := by
  induction l with
  | nil => intro acc; simp [toNat_nil]
  | cons a l ih =>
    intro acc
    rw [List.foldl_cons, ih, toNat_cons]
    have hp := Nat.two_pow_pos l.length
    cases a <;> cases acc <;> simp <;> omega

theorem allZero_eq (y : List Bool) : allZero y = decide (toNat y = 0) := by
  unfold allZero
  have : (fun (acc b : Bool) => acc && ((b ^^ false) ^^ true)) = (fun acc w => acc && !w) := by
    funext acc b; cases acc <;> cases b <;> rfl
  rw [this, foldl_allZero]; simp

/-- `allOnes` is `allZero` of the inverted wires -/
theorem allOnes_eq (y : List Bool) : allOnes y = decide (toNat y + 1 = 2 ^ y.length) := by
  have h := foldl_allZero (y.map (!·)) true
  rw [List.foldl_map] at h
  simp only [Bool.not_not, Bool.true_and] at h
  rw [allOnes, h]
  exact decide_eq_decide.mpr (by have := toNat_map_not y; omega)

/-- the one divisor whose quotient can overflow -/
theorem allOnes_iff (b : Bool) (y : List Bool) : allOnes (b :: y) = true ↔ toInt (b :: y) = -1 := by
  have hl := toNat_lt y
  rw [allOnes_eq, toInt_cons, toNat_cons, ← two_pow_cast, List.length_cons, Nat.pow_succ]
  generalize 2 ^ y.length = P at *
  cases b <;> simp <;> omega

theorem isMin_iff (a : Bool) (x : List Bool) : isMin (a :: x) = true ↔ toInt (a :: x) = -(2 : Int) ^ x.length := by
  have hpos : (0 : Int) < (2 : Int) ^ x.length := Int.pow_pos (by decide)
  rw [isMin, List.tail_cons, List.headD_cons, foldl_allZero, toInt_cons]
  cases a <;> simp <;> omega

end Arith
end GV
