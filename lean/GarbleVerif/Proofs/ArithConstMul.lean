import GarbleVerif.Proofs.ArithBE
/-!
# Multiplication by a literal: repeated checked addition (`constMul`)
-/
namespace GV
namespace Arith

/-- after `m` additions: the accumulator is `m·y` unless flagged, and flagged exactly when `m·y` does not fit -/
def CmUnsigned (y : List Bool) (m : Nat) (acc : List Bool × Bool) : Prop :=
  acc.1.length = y.length ∧ (acc.2 = false → toNat acc.1 = m * toNat y) ∧
    (acc.2 = true ↔ 2 ^ y.length ≤ m * toNat y)

theorem cmUnsigned_step (y : List Bool) (m : Nat) (acc : List Bool × Bool) (h : CmUnsigned y m acc) :
    CmUnsigned y (m + 1) ((add acc.1 y).1, acc.2 || (add acc.1 y).2.1) := by
  obtain ⟨s, f⟩ := acc
  obtain ⟨hl, hv, hf⟩ := h
  have hadd := add_overflow_unsigned s y hl
  rw [hl] at hadd
  refine ⟨(add_length s y hl).trans hl, ?_, ?_⟩ <;> simp only [Nat.succ_mul]
  · intro hff
    simp only [Bool.or_eq_false_iff] at hff
    rw [add_exact s y hl hff.2, hv hff.1]
  · cases f with
    | true =>
      have := hf.1 rfl
      simp only [Bool.true_or, true_iff]
      omega
    | false => rw [Bool.false_or, hadd, hv rfl]

/-- **multiplication of an unsigned operand by a literal `n ≥ 1`**: exact product unless the flag is set; flag ⇔ the
product needs more than the width -/
theorem constMul_unsigned (y : List Bool) (n : Nat) (hn : 1 ≤ n) :
    let r := constMul y false n false
    r.1.length = y.length ∧ (r.2 = false → toNat r.1 = n * toNat y) ∧ (r.2 = true ↔ 2 ^ y.length ≤ n * toNat y) := by
  have h1 : CmUnsigned y 1 (y, false) := by
    have := toNat_lt y
    exact ⟨rfl, fun _ => (Nat.one_mul _).symm, by simp; omega⟩
  have := foldl_count _ (CmUnsigned y) (fun m a (_ : Nat) => cmUnsigned_step y m a) (List.range (n - 1)) 1 _ h1
  rw [List.length_range, Nat.add_sub_cancel' hn] at this
  exact this

/-- after `m` additions: the accumulator is `m·y` unless flagged, flagged exactly when `m·y` is outside the type -/
def CmSigned (b : Bool) (yr : List Bool) (m : Nat) (acc : List Bool × Bool) : Prop :=
  acc.1.length = yr.length + 1 ∧ (acc.2 = false → toInt acc.1 = (m : Int) * toInt (b :: yr)) ∧
    (acc.2 = true ↔ ((m : Int) * toInt (b :: yr) < -(2 : Int) ^ yr.length ∨
      (2 : Int) ^ yr.length ≤ (m : Int) * toInt (b :: yr)))

theorem cmSigned_step (b : Bool) (yr : List Bool) (m : Nat) (acc : List Bool × Bool) (h : CmSigned b yr m acc) :
    CmSigned b yr (m + 1) ((add acc.1 (b :: yr)).1, acc.2 || ((add acc.1 (b :: yr)).2.1 ^^ (add acc.1 (b :: yr)).2.2)) := by
  obtain ⟨s, f⟩ := acc
  obtain ⟨hl, hv, hf⟩ := h
  obtain ⟨a, sr, rfl, hsr⟩ := exists_cons_of_length hl
  obtain ⟨hexact, hovf⟩ := add_signed a b sr yr hsr
  have hpos : (0 : Int) < 2 ^ yr.length := Int.pow_pos (by decide)
  have hmul : ((m + 1 : Nat) : Int) * toInt (b :: yr) = (m : Int) * toInt (b :: yr) + toInt (b :: yr) := by
    rw [Int.natCast_succ, Int.add_mul, Int.one_mul]
  rw [hsr] at hovf
  refine ⟨(add_length _ _ (by simp [hsr])).trans hl, ?_, ?_⟩ <;> simp only [hmul]
  · intro hff
    simp only [Bool.or_eq_false_iff] at hff
    rw [hexact hff.2, hv hff.1]
  · cases f with
    | true =>
      -- a multiple has the sign of the number, so adding the number once more leads further out of range
      have hP := hf.1 rfl
      have h0 : 0 ≤ toInt (b :: yr) → 0 ≤ (m : Int) * toInt (b :: yr) := Int.mul_nonneg (Int.natCast_nonneg m)
      have h1 : toInt (b :: yr) ≤ 0 → (m : Int) * toInt (b :: yr) ≤ 0 :=
        Int.mul_nonpos_of_nonneg_of_nonpos (Int.natCast_nonneg m)
      generalize (m : Int) * toInt (b :: yr) = P at *
      simp only [Bool.true_or, true_iff]
      omega
    | false => rw [Bool.false_or, hovf, hv rfl]

/-- **multiplication of a signed operand by a positive literal `n ≥ 1`**: exact product unless the flag is set;
flag ⇔ the product is outside the type -/
theorem constMul_signed_pos (b : Bool) (yr : List Bool) (n : Nat) (hn : 1 ≤ n) :
    let r := constMul (b :: yr) true n false
    r.1.length = yr.length + 1 ∧
    (r.2 = false → toInt r.1 = (n : Int) * toInt (b :: yr)) ∧
    (r.2 = true ↔ ((n : Int) * toInt (b :: yr) < -(2 : Int) ^ yr.length ∨
      (2 : Int) ^ yr.length ≤ (n : Int) * toInt (b :: yr))) := by
  obtain ⟨lo, hi⟩ := toInt_range b yr
  have h1 : CmSigned b yr 1 (b :: yr, false) := ⟨rfl, fun _ => by simp, by simp; omega⟩
  have := foldl_count _ (CmSigned b yr) (fun m a (_ : Nat) => cmSigned_step b yr m a) (List.range (n - 1)) 1 _ h1
  rw [List.length_range, Nat.add_sub_cancel' hn] at this
  exact this

theorem cmSigned_neg (b : Bool) (yr : List Bool) (n : Nat) (acc : List Bool × Bool) (h : CmSigned b yr n acc) :
    ((acc.2 || (negChecked acc.1).2) = false → toInt (negChecked acc.1).1 = -((n : Int) * toInt (b :: yr))) ∧
    ((acc.2 || (negChecked acc.1).2) = true ↔ ((n : Int) * toInt (b :: yr) ≤ -(2 : Int) ^ yr.length ∨
      (2 : Int) ^ yr.length ≤ (n : Int) * toInt (b :: yr))) := by
  obtain ⟨s, f⟩ := acc
  obtain ⟨hl, hv, hf⟩ := h
  obtain ⟨a, sr, rfl, hsr⟩ := exists_cons_of_length hl
  obtain ⟨hnf, hnv⟩ := negChecked_spec a sr
  rw [hsr] at hnf
  generalize (n : Int) * toInt (b :: yr) = P at *
  constructor
  · intro hff
    simp only [Bool.or_eq_false_iff] at hff
    rw [hnv hff.2, hv hff.1]
  · cases f with
    | true =>
      have := hf.1 rfl
      simp only [Bool.true_or, true_iff]
      omega
    | false =>
      have hin : ¬ (P < -(2 : Int) ^ yr.length ∨ (2 : Int) ^ yr.length ≤ P) := fun h => nomatch hf.2 h
      rw [Bool.false_or, hnf, hv rfl]
      omega

/-- **multiplication by a negative literal `-n`, `n ≥ 1`**: the operand is added `n` times and the sum negated. The
result is the exact product unless the flag is set, and the flag is set exactly when `n·y` is not strictly inside
`(-2^w, 2^w)`. -/
theorem constMul_signed_neg (b : Bool) (yr : List Bool) (n : Nat) (hn : 1 ≤ n) :
    let r := constMul (b :: yr) true n true
    (r.2 = false → toInt r.1 = -((n : Int) * toInt (b :: yr))) ∧
    (r.2 = true ↔ ((n : Int) * toInt (b :: yr) ≤ -(2 : Int) ^ yr.length ∨
      (2 : Int) ^ yr.length ≤ (n : Int) * toInt (b :: yr))) :=
  cmSigned_neg b yr n _ (constMul_signed_pos b yr n hn)

/-- the recorded finding, exactly: with a negative literal the flag is set although the exact product is
representable precisely when `n·y = 2^w`, i.e. when the product is the minimum value -/
theorem constMul_neg_spurious (b : Bool) (yr : List Bool) (n : Nat) (hn : 1 ≤ n) :
    let r := constMul (b :: yr) true n true
    let prod := -((n : Int) * toInt (b :: yr))
    (r.2 = true ∧ -(2 : Int) ^ yr.length ≤ prod ∧ prod < (2 : Int) ^ yr.length) ↔ prod = -(2 : Int) ^ yr.length := by
  have h := (constMul_signed_neg b yr n hn).2
  simp only at h ⊢
  rw [h]
  have hp2 : (0 : Int) < (2 : Int) ^ yr.length := Int.pow_pos (by decide)
  generalize (n : Int) * toInt (b :: yr) = P at *
  omega

end Arith
end GV
