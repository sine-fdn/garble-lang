import GarbleVerif.Proofs.Requests
/-! The panic record at builder level refines the abstract panic state
`Option (List Bool)`, the information bits of the first failure ("first failure wins"). -/
namespace GV
namespace Builder

/-- `push_mux` over two equally long lists of wires yields one list or the other -/
theorem muxWires_yields {b : Builder} (hb : WF b) {s : Nat} {vs : List Bool → Bool} (hs : Has b s vs) {xs ys : List Nat}
    {vx vy : List Bool → List Bool} (hx : HasAll b xs vx) (hy : HasAll b ys vy) (hlen : xs.length = ys.length) :
    YieldsAll b (muxWires b s xs ys) fun inp => if vs inp then vx inp else vy inp := by
  induction xs generalizing b ys vx vy with
  | nil =>
    obtain rfl : ys = [] := List.eq_nil_of_length_eq_zero hlen.symm
    exact ⟨hb, Ext.refl b, HasAll.nil.congr fun inp hi => by rw [← hx.sem inp hi, ← hy.sem inp hi, ite_self]; rfl⟩
  | cons x xs ih =>
    cases ys with
    | nil => cases hlen
    | cons y ys =>
      obtain ⟨hx0, hxs⟩ := hx.of_cons
      obtain ⟨hy0, hys⟩ := hy.of_cons
      obtain ⟨w, b1, r1, wf1, e1, hw⟩ := (mux_yields hb hs hx0 hy0).exists
      obtain ⟨ws, b2, r2, wf2, e2, hws⟩ :=
        (ih wf1 (hs.mono e1) (hxs.mono e1) (hys.mono e1) (Nat.succ.inj hlen)).exists
      simp only [muxWires, r1, r2]
      refine ⟨wf2, e1.trans e2, (HasAll.cons (hw.mono e2) hws).congr fun inp hi => ?_⟩
      rw [(e1.trans e2).shift] at hi
      rw [← hx.sem inp hi, ← hy.sem inp hi]
      cases vs inp <;> rfl

/-- decoded panic state on input `inp`: `none` = no panic, `some info` = panicked with these 160
information bits (reason and location of the first failing site) -/
def absOf (b : Builder) (inp : List Bool) (p : PanicSt) : Option (List Bool) :=
  if b.sem inp p.flag then some ((p.wires.drop 1).map (b.sem inp)) else none

/-- "first failure wins" -/
def raiseIf (c : Bool) (info : List Bool) (s : Option (List Bool)) : Option (List Bool) :=
  match s with
  | some i => some i
  | none => if c then some info else none

/-- invariant of a panic record: it has 161 wires (the flag, then 160 information bits), they and the cached
conditions exist in `b`, and every cached condition implies the flag on every input -/
structure PInv (b : Builder) (p : PanicSt) : Prop where
  lt : ∀ w, w ∈ p.wires → w < b.counter
  len : p.wires.length = 161
  cacheLt : ∀ c, c ∈ p.cache → c < b.counter
  cacheImp : ∀ c, c ∈ p.cache → ∀ inp, inp.length + 2 = b.shift →
    b.sem inp c = true → b.sem inp p.flag = true

theorem PanicSt.wires_eq {p : PanicSt} (hl : p.wires.length = 161) :
    ∃ info, p.wires = p.flag :: info ∧ info.length = 160 := by
  unfold PanicSt.flag
  cases hw : p.wires with
  | nil => rw [hw] at hl; cases hl
  | cons a l => rw [hw] at hl; exact ⟨l, rfl, Nat.succ.inj hl⟩

theorem PInv.flag_lt {b : Builder} {p : PanicSt} (h : PInv b p) : p.flag < b.counter := by
  obtain ⟨info, hw, -⟩ := PanicSt.wires_eq h.len
  exact h.lt _ (hw ▸ .head _)

theorem PInv.mono {b b' : Builder} {p : PanicSt} (h : PInv b p) (e : Ext b b') : PInv b' p := by
  refine ⟨fun w hw => Nat.lt_of_lt_of_le (h.lt w hw) e.counter_le, h.len,
    fun c hc => Nat.lt_of_lt_of_le (h.cacheLt c hc) e.counter_le, fun c hc inp hi hs => ?_⟩
  rw [e.shift] at hi
  rw [e.sem_eq inp hi c (h.cacheLt c hc)] at hs
  rw [e.sem_eq inp hi p.flag h.flag_lt]
  exact h.cacheImp c hc inp hi hs

theorem absOf_ext {b b' : Builder} {p : PanicSt} (h : PInv b p) (e : Ext b b') (inp : List Bool)
    (hi : inp.length + 2 = b.shift) : absOf b' inp p = absOf b inp p := by
  unfold absOf
  rw [e.sem_eq inp hi p.flag h.flag_lt, e.map_sem_eq inp hi _ fun w hw => h.lt w (List.mem_of_mem_drop hw)]

/-- The invariant and the decoded state of a record, read off from what its wires carry: a flag bit, then 160
information bits, every cached condition implying the flag. `muxPanic_refines` and `pushPanicIf_refines` are the
two instances. -/
theorem PInv.of_yields {b b' : Builder} {p' : PanicSt} {fl : List Bool → Bool}
    {info : List Bool → List Bool} (hy : YieldsAll b (p'.wires, b') fun inp => fl inp :: info inp)
    (hinfo : ∀ inp, (info inp).length = 160)
    (hcache : ∀ c, c ∈ p'.cache → c < b.counter ∧
      ∀ inp, inp.length + 2 = b.shift → b.sem inp c = true → fl inp = true) :
    WF b' ∧ Ext b b' ∧ PInv b' p' ∧
    ∀ inp, inp.length + 2 = b.shift → absOf b' inp p' = if fl inp then some (info inp) else none := by
  obtain ⟨wf, e, hall⟩ := hy
  have hlen : p'.wires.length = 161 := hall.length wf fun inp => by rw [List.length_cons, hinfo]
  obtain ⟨rest, hw, -⟩ := PanicSt.wires_eq hlen
  obtain ⟨hfl, hrest⟩ : Has b' p'.flag fl ∧ HasAll b' rest info := HasAll.of_cons (hw ▸ hall)
  refine ⟨wf, e, ⟨hall.lt, hlen, fun c hc => Nat.lt_of_lt_of_le (hcache c hc).1 e.counter_le,
    fun c hc inp hi hcv => ?_⟩, fun inp hi => ?_⟩
  · have hi' : inp.length + 2 = b.shift := hi.trans e.shift
    rw [e.sem_eq inp hi' c (hcache c hc).1] at hcv
    exact (hfl.sem inp hi).trans ((hcache c hc).2 inp hi' hcv)
  · have hi' : inp.length + 2 = b'.shift := hi.trans e.shift.symm
    rw [absOf, hw, List.drop_succ_cons, List.drop_zero, hfl.sem inp hi', hrest.sem inp hi']

/-- **`mux_panic` refines the conditional**: the merged record decodes to the record of the
path selected by `s`, and the invariant is kept. -/
theorem muxPanic_refines {b : Builder} (hb : WF b) {s : Nat} (hs : s < b.counter) {t f : PanicSt}
    (ht : PInv b t) (hf : PInv b f) :
    WF (muxPanic b s t f).1 ∧ Ext b (muxPanic b s t f).1 ∧ PInv (muxPanic b s t f).1 (muxPanic b s t f).2 ∧
    ∀ inp, inp.length + 2 = b.shift →
      absOf (muxPanic b s t f).1 inp (muxPanic b s t f).2 =
        if b.sem inp s then absOf b inp t else absOf b inp f := by
  obtain ⟨ti, htw, hti⟩ := PanicSt.wires_eq ht.len
  obtain ⟨fi, hfw, hfi⟩ := PanicSt.wires_eq hf.len
  -- the wires and the builder of `muxPanic` are, by computation, the two components of `muxWires`
  have hy : YieldsAll b ((muxPanic b s t f).2.wires, (muxPanic b s t f).1) _ :=
    muxWires_yields hb (.self hs) (.self ht.lt) (.self hf.lt) (by rw [ht.len, hf.len])
  obtain ⟨wf, e, inv, habs⟩ := PInv.of_yields
    (fl := fun inp => if b.sem inp s then b.sem inp t.flag else b.sem inp f.flag)
    (info := fun inp => if b.sem inp s then ti.map (b.sem inp) else fi.map (b.sem inp))
    ⟨hy.1, hy.2.1, hy.2.2.congr fun inp _ => by rw [htw, hfw]; cases b.sem inp s <;> rfl⟩
    (fun inp => by
      split
      · rw [List.length_map, hti]
      · rw [List.length_map, hfi])
    (fun c hc => by
      obtain ⟨hct, hcf⟩ := List.mem_filter.mp hc
      refine ⟨ht.cacheLt c hct, fun inp hi hcv => ?_⟩
      split
      · exact ht.cacheImp c hct inp hi hcv
      · exact hf.cacheImp c (List.contains_iff_mem.mp hcf) inp hi hcv)
  refine ⟨wf, e, inv, fun inp hi => ?_⟩
  rw [habs inp hi, absOf, absOf, htw, hfw]
  cases b.sem inp s <;> rfl

theorem deinterleave4_map {α β} (g : α → β) : ∀ (l : List α),
    deinterleave4 (l.map g) = ((deinterleave4 l).1.map g, (deinterleave4 l).2.1.map g,
      (deinterleave4 l).2.2.1.map g, (deinterleave4 l).2.2.2.map g)
  | a :: b :: c :: d :: rest => by simp only [List.map_cons, deinterleave4, deinterleave4_map g rest]
  | [] => rfl
  | [_] => rfl
  | [_, _] => rfl
  | [_, _, _] => rfl

theorem deinterleave4_interleave4 {α} : ∀ (a b c d : List α), a.length = b.length → a.length = c.length →
    a.length = d.length → deinterleave4 (interleave4 a b c d) = (a, b, c, d)
  | x :: a, y :: b, z :: c, w :: d, h1, h2, h3 => by
    rw [interleave4, deinterleave4,
      deinterleave4_interleave4 a b c d (Nat.succ.inj h1) (Nat.succ.inj h2) (Nat.succ.inj h3)]
  | [], [], [], [], _, _, _ => rfl
  | [], _ :: _, _, _, h, _, _ => nomatch h
  | [], [], _ :: _, _, _, h, _ => nomatch h
  | [], [], [], _ :: _, _, _, h => nomatch h
  | _ :: _, [], _, _, h, _, _ => nomatch h
  | _ :: _, _ :: _, [], _, _, h, _ => nomatch h
  | _ :: _, _ :: _, _ :: _, [], _, _, h => nomatch h

theorem deinterleave4_map_interleave4 {α β} (g : α → β) (a b c d : List α) (h1 : a.length = b.length)
    (h2 : a.length = c.length) (h3 : a.length = d.length) :
    deinterleave4 ((interleave4 a b c d).map g) = (a.map g, b.map g, c.map g, d.map g) := by
  rw [deinterleave4_map, deinterleave4_interleave4 a b c d h1 h2 h3]

theorem interleave4_length {α} : ∀ (a b c d : List α), a.length = b.length → a.length = c.length →
    a.length = d.length → (interleave4 a b c d).length = 4 * a.length
  | x :: a, y :: b, z :: c, w :: d, h1, h2, h3 => by
    show (interleave4 a b c d).length + 4 = 4 * (a.length + 1)
    rw [interleave4_length a b c d (Nat.succ.inj h1) (Nat.succ.inj h2) (Nat.succ.inj h3), Nat.mul_succ]
  | [], _, _, _, _, _, _ => rfl
  | _ :: _, [], _, _, h, _, _ => nomatch h
  | _ :: _, _ :: _, [], _, _, h, _ => nomatch h
  | _ :: _, _ :: _, _ :: _, [], _, _, h => nomatch h

theorem mem_interleave4 {α} {x : α} (a b c d : List α) (h : x ∈ interleave4 a b c d) :
    x ∈ a ∨ x ∈ b ∨ x ∈ c ∨ x ∈ d := by
  fun_induction interleave4 a b c d with
  | case1 y a z b u c w d ih =>
    simp only [List.mem_cons] at h ⊢
    grind
  | case2 => cases h

theorem mem_deinterleave4 {α} {x : α} (l : List α)
    (h : x ∈ (deinterleave4 l).1 ∨ x ∈ (deinterleave4 l).2.1 ∨ x ∈ (deinterleave4 l).2.2.1 ∨
      x ∈ (deinterleave4 l).2.2.2) : x ∈ l := by
  fun_induction deinterleave4 l with
  | case1 a b c d rest as bs cs ds hr ih =>
    simp only [hr, List.mem_cons] at h ih ⊢
    grind
  | case2 => simp only [List.not_mem_nil, or_self] at h

theorem HasAll.deinterleave {b : Builder} {l : List Nat} {v : List Bool → List Bool} (h : HasAll b l v)
    {as bs cs ds : List Nat} (hD : deinterleave4 l = (as, bs, cs, ds)) :
    HasAll b as (fun inp => (deinterleave4 (v inp)).1) ∧ HasAll b bs (fun inp => (deinterleave4 (v inp)).2.1) ∧
    HasAll b cs (fun inp => (deinterleave4 (v inp)).2.2.1) ∧ HasAll b ds (fun inp => (deinterleave4 (v inp)).2.2.2) := by
  have hlt : ∀ w, w ∈ as ∨ w ∈ bs ∨ w ∈ cs ∨ w ∈ ds → w < b.counter := fun w hm =>
    h.lt w (mem_deinterleave4 l (by rw [hD]; exact hm))
  -- de-interleaving commutes with evaluating the wires
  have hv : ∀ inp, inp.length + 2 = b.shift → deinterleave4 (v inp) =
      (as.map (b.sem inp), bs.map (b.sem inp), cs.map (b.sem inp), ds.map (b.sem inp)) := fun inp hi => by
    rw [← h.sem inp hi, deinterleave4_map, hD]
  exact ⟨⟨fun w hm => hlt w (.inl hm), fun inp hi => by rw [hv inp hi]⟩,
    ⟨fun w hm => hlt w (.inr (.inl hm)), fun inp hi => by rw [hv inp hi]⟩,
    ⟨fun w hm => hlt w (.inr (.inr (.inl hm))), fun inp hi => by rw [hv inp hi]⟩,
    ⟨fun w hm => hlt w (.inr (.inr (.inr hm))), fun inp hi => by rw [hv inp hi]⟩⟩

theorem usizeWires_length (n : Nat) : (usizeWires n).length = 32 := by simp [usizeWires]

theorem usizeWires_le_one (n : Nat) : ∀ w, w ∈ usizeWires n → w ≤ 1 := by
  intro w hw
  simp only [usizeWires, List.mem_map, List.mem_range] at hw
  obtain ⟨i, _, rfl⟩ := hw
  have := Nat.mod_lt (n / 2 ^ (31 - i)) (by decide : 0 < 2)
  omega

theorem split160 {α} (l : List α) (h : l.length = 160) :
    l = l.take 32 ++ ((l.drop 32).take 32 ++ ((l.drop 64).take 32 ++ ((l.drop 96).take 32 ++ (l.drop 128).take 32))) := by
  have e1 := (List.take_append_drop 32 l).symm
  have e2 := (List.take_append_drop 32 (l.drop 32)).symm
  have e3 := (List.take_append_drop 32 (l.drop 64)).symm
  have e4 := (List.take_append_drop 32 (l.drop 96)).symm
  have e5 : (l.drop 128).take 32 = l.drop 128 := List.take_of_length_le (by simp; omega)
  simp only [List.drop_drop] at e2 e3 e4
  rw [e5]
  conv => lhs; rw [e1, e2, e3, e4]

theorem PInv.fields {b : Builder} {p : PanicSt} (h : PInv b p) :
    p.wires = p.flag :: (p.reason ++ (p.startLine ++ (p.startCol ++ (p.endLine ++ p.endCol)))) ∧
    p.reason.length = 32 ∧ p.startLine.length = 32 ∧ p.startCol.length = 32 ∧ p.endLine.length = 32 ∧
    p.endCol.length = 32 := by
  obtain ⟨info, hw, hinfo⟩ := PanicSt.wires_eq h.len
  simp only [PanicSt.reason, PanicSt.startLine, PanicSt.startCol, PanicSt.endLine, PanicSt.endCol, hw,
    List.drop_succ_cons, List.drop_zero, List.length_take, List.length_drop, hinfo]
  exact ⟨congrArg _ (split160 info hinfo), rfl, rfl, rfl, rfl, rfl⟩

/-- the 160 information bits a site writes (constant wires) -/
def siteInfo (reason l0 c0 l1 c1 : Nat) : List Nat :=
  usizeWires reason ++ (usizeWires l0 ++ (usizeWires c0 ++ (usizeWires l1 ++ usizeWires c1)))

/-- **`push_panic_if` refines `raiseIf`** ("first failure wins"), and the invariant is kept. -/
theorem pushPanicIf_refines {b : Builder} (hb : WF b) {p : PanicSt} (hp : PInv b p) {cond : Nat}
    (hc : cond < b.counter) (reason l0 c0 l1 c1 : Nat) :
    WF (pushPanicIf b p cond reason l0 c0 l1 c1).1 ∧ Ext b (pushPanicIf b p cond reason l0 c0 l1 c1).1 ∧
    PInv (pushPanicIf b p cond reason l0 c0 l1 c1).1 (pushPanicIf b p cond reason l0 c0 l1 c1).2 ∧
    ∀ inp, inp.length + 2 = b.shift →
      absOf (pushPanicIf b p cond reason l0 c0 l1 c1).1 inp (pushPanicIf b p cond reason l0 c0 l1 c1).2 =
        raiseIf (b.sem inp cond) ((siteInfo reason l0 c0 l1 c1).map (b.sem inp)) (absOf b inp p) := by
  unfold pushPanicIf
  split
  · -- the condition is already part of the record: if it holds, so does the flag
    rename_i hhit
    have hmem : cond ∈ p.cache := List.contains_iff_mem.mp hhit
    refine ⟨hb, Ext.refl b, hp, fun inp hi => ?_⟩
    have := hp.cacheImp cond hmem inp hi
    unfold absOf raiseIf
    cases hfl : b.sem inp p.flag
    · cases hcv : b.sem inp cond
      · rfl
      · rw [hfl] at this; cases this hcv
    · rfl
  · -- a new condition
    obtain ⟨hw, lR, lSL, lSC, lEL, lEC⟩ := hp.fields
    have u := usizeWires_length
    -- what the flag, the fields (the slices `(p.wires.drop n).take 32`) and the constants of the site carry in `b`
    have hfl : Has b p.flag _ := .self hp.flag_lt
    have hfield : ∀ n w, w ∈ (p.wires.drop n).take 32 → w < b.counter := fun n w hm =>
      hp.lt w (List.mem_of_mem_drop (List.mem_of_mem_take hm))
    have hC : ∀ n, HasAll b (usizeWires n) _ := fun n =>
      .self fun w hm => Nat.lt_of_le_of_lt (usizeWires_le_one n w hm) hb.two_le_counter
    have hR : HasAll b p.reason _ := .self (hfield 1)
    -- the old and the new location, interleaved
    have hI : HasAll b (interleave4 p.startLine p.startCol p.endLine p.endCol) _ := .self fun w hm => by
      rcases mem_interleave4 _ _ _ _ hm with h | h | h | h
      · exact hfield 33 w h
      · exact hfield 65 w h
      · exact hfield 97 w h
      · exact hfield 129 w h
    have hI' : HasAll b (interleave4 (usizeWires l0) (usizeWires c0) (usizeWires l1) (usizeWires c1)) _ :=
      .self fun w hm => by
        rcases mem_interleave4 _ _ _ _ hm with h | h | h | h <;> exact (hC _).lt w h
    have hIlen : (interleave4 p.startLine p.startCol p.endLine p.endCol).length =
        (interleave4 (usizeWires l0) (usizeWires c0) (usizeWires l1) (usizeWires c1)).length := by
      rw [interleave4_length _ _ _ _ (lSL.trans lSC.symm) (lSL.trans lEL.symm) (lSL.trans lEC.symm),
        interleave4_length _ _ _ _ ((u l0).trans (u c0).symm) ((u l0).trans (u l1).symm) ((u l0).trans (u c1).symm),
        u, lSL]
    -- the three stages: the flag, the location, the reason; every fact about `b` is carried along
    obtain ⟨flag', b1, r1, wf1, e1, hfl'⟩ := (or_yields hb hfl (.self hc)).exists
    obtain ⟨loc, b2, r2, wf2, e2, hloc⟩ :=
      (muxWires_yields wf1 (hfl.mono e1) (hI.mono e1) (hI'.mono e1) hIlen).exists
    have e12 := e1.trans e2
    obtain ⟨rs, b3, r3, wf3, e3, hrs⟩ := (muxWires_yields wf2 (hfl.mono e12) (hR.mono e12) ((hC reason).mono e12)
      (lR.trans (u reason).symm)).exists
    simp only [r1, r2, r3]
    generalize hD : deinterleave4 loc = D
    obtain ⟨sl', sc', el', ec'⟩ := D
    obtain ⟨hsl, hsc, hel, hec⟩ := (hloc.mono e3).deinterleave hD
    -- the new record: the flag is `flag || cond`, the information that of the old record or of this site
    have hy : YieldsAll b (flag' :: (rs ++ sl' ++ sc' ++ el' ++ ec'), b3) fun inp =>
        (b.sem inp p.flag || b.sem inp cond) :: if b.sem inp p.flag then (p.wires.drop 1).map (b.sem inp)
          else (siteInfo reason l0 c0 l1 c1).map (b.sem inp) := by
      refine ⟨wf3, e12.trans e3, (HasAll.cons (hfl'.mono (e2.trans e3))
        ((((hrs.append hsl).append hsc).append hel).append hec)).congr fun inp _ => congrArg _ ?_⟩
      cases b.sem inp p.flag
      · -- the site's constants
        rw [if_neg Bool.false_ne_true, if_neg Bool.false_ne_true, if_neg Bool.false_ne_true,
          deinterleave4_map_interleave4 _ _ _ _ _ ((u l0).trans (u c0).symm) ((u l0).trans (u l1).symm)
            ((u l0).trans (u c1).symm)]
        simp only [siteInfo, List.map_append, List.append_assoc]
      · -- the fields of the old record
        rw [if_pos rfl, if_pos rfl, if_pos rfl, deinterleave4_map_interleave4 _ _ _ _ _ (lSL.trans lSC.symm)
          (lSL.trans lEL.symm) (lSL.trans lEC.symm), hw, List.drop_succ_cons, List.drop_zero]
        simp only [List.map_append, List.append_assoc]
    obtain ⟨wf, e, inv, habs⟩ := PInv.of_yields (p' := ⟨_, cond :: p.cache⟩) hy
      (fun inp => by
        split
        · rw [List.length_map, List.length_drop, hp.len]
        · simp only [siteInfo, List.length_map, List.length_append, usizeWires_length])
      (fun c hm => by
        rcases List.mem_cons.mp hm with rfl | hm
        · exact ⟨hc, fun inp _ hcv => by rw [hcv, Bool.or_true]⟩
        · exact ⟨hp.cacheLt c hm, fun inp hi hcv => by rw [hp.cacheImp c hm inp hi hcv, Bool.true_or]⟩)
    refine ⟨wf, e, inv, fun inp hi => ?_⟩
    rw [habs inp hi, absOf]
    cases b.sem inp p.flag <;> cases b.sem inp cond <;> rfl

end Builder
end GV
