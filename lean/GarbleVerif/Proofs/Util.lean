/-! Facts about `if`, `List.mapM` into `Option` and `List.getD` that mention nothing of the project.

The guard lemmas take a test out of a definition in place of `split`, which would simplify the whole rest of the
definition under the new hypothesis (for `(if c then x else none) = some y` core has `Option.ite_none_right_eq_some`).
The last six read a list of bits through `getD · false`, which needs no bound on the position. -/
namespace GV

/-- one step through a cascade `if c then some a else …`: either the test holds and `a` is the result, or the
search goes on -/
theorem of_ite_eq_some {α} {c : Prop} [Decidable c] {a r : α} {o : Option α}
    (h : (if c then some a else o) = some r) : c ∧ a = r ∨ ¬c ∧ o = some r := by
  by_cases hc : c
  · rw [if_pos hc] at h; exact .inl ⟨hc, Option.some.inj h⟩
  · rw [if_neg hc] at h; exact .inr ⟨hc, h⟩

theorem of_ite_eq_none {α} {c : Prop} [Decidable c] {a : α} {o : Option α}
    (h : (if c then some a else o) = none) : ¬c ∧ o = none := by
  by_cases hc : c
  · rw [if_pos hc] at h; cases h
  · rw [if_neg hc] at h; exact ⟨hc, h⟩

theorem ite_error_eq_ok {ε α} {c : Prop} [Decidable c] {e : ε} {x : Except ε α} {a : α} :
    (if c then .error e else x) = .ok a ↔ ¬ c ∧ x = .ok a := by
  by_cases h : c <;> simp [h]

/-! `mapM` into `Option` succeeds iff every element does -/

theorem mapM_cons_eq_some {α β} {f : α → Option β} {a : α} {l : List α} {out : List β} :
    (a :: l).mapM f = some out ↔ ∃ b bs, f a = some b ∧ l.mapM f = some bs ∧ out = b :: bs := by
  cases hb : f a <;> cases hbs : l.mapM f <;> simp [List.mapM_cons, hb, hbs, eq_comm]

theorem mapM_eq_some_of_forall {α β} {f : α → Option β} {l : List α}
    (h : ∀ a ∈ l, ∃ b, f a = some b) : ∃ out, l.mapM f = some out ∧ out.length = l.length := by
  induction l with
  | nil => exact ⟨[], by simp, rfl⟩
  | cons a l ih =>
    obtain ⟨b, hb⟩ := h a (by simp)
    obtain ⟨bs, hbs, hl⟩ := ih fun x hx => h x (by simp [hx])
    exact ⟨b :: bs, mapM_cons_eq_some.mpr ⟨b, bs, hb, hbs, rfl⟩, by simp [hl]⟩

theorem forall_of_mapM_eq_some {α β} {f : α → Option β} {l : List α} {out : List β}
    (h : l.mapM f = some out) : ∀ a ∈ l, ∃ b, f a = some b := by
  induction l generalizing out with
  | nil => simp
  | cons a l ih =>
    obtain ⟨b, bs, hb, hbs, rfl⟩ := mapM_cons_eq_some.mp h
    simpa [hb] using ih hbs

theorem mapM_eq_some_imp {α β} {f g : α → Option β} {l : List α} {out : List β}
    (hfg : ∀ a b, f a = some b → g a = some b) (h : l.mapM f = some out) : l.mapM g = some out := by
  induction l generalizing out with
  | nil => simpa using h
  | cons a l ih =>
    obtain ⟨b, bs, hb, hbs, rfl⟩ := mapM_cons_eq_some.mp h
    exact mapM_cons_eq_some.mpr ⟨b, bs, hfg a b hb, ih hbs, rfl⟩

theorem mapM_drop {α β : Type} {f : α → Option β} : ∀ {l : List α} {out : List β} (n : Nat),
    l.mapM f = some out → (l.drop n).mapM f = some (out.drop n)
  | _, _, 0, h => h
  | [], _, n + 1, h => by
    simp at h
    simp [h]
  | a :: l, _, n + 1, h => by
    obtain ⟨b, bs, -, hbs, rfl⟩ := mapM_cons_eq_some.mp h
    exact mapM_drop n hbs

theorem getD_set {α} (l : List α) (i j : Nat) (v d : α) :
    (l.set i v).getD j d = if i = j ∧ i < l.length then v else l.getD j d := by
  simp only [List.getD_eq_getElem?_getD, List.getElem?_set]
  by_cases h : i = j
  · subst h
    by_cases hl : i < l.length <;> simp [hl]
  · simp [h]

theorem getElem?_eq_some_getD {α} {l : List α} {i : Nat} (h : i < l.length) (d : α) : l[i]? = some (l.getD i d) := by
  rw [List.getD_eq_getElem?_getD, List.getElem?_eq_getElem h]; rfl

theorem getD_tab (n : Nat) (f : Nat → Bool) (i : Nat) (hi : i < n) : ((List.range n).map f).getD i false = f i := by
  rw [List.getD_eq_getElem?_getD, List.getElem?_map, List.getElem?_range hi]
  rfl

theorem getD_ge (l : List Bool) (i : Nat) (h : l.length ≤ i) : l.getD i false = false := by
  rw [List.getD_eq_getElem?_getD, List.getElem?_eq_none h]
  rfl

theorem ext_getD {l₁ l₂ : List Bool} (hl : l₁.length = l₂.length)
    (h : ∀ i, i < l₁.length → l₁.getD i false = l₂.getD i false) : l₁ = l₂ := by
  apply List.ext_getElem hl
  intro i h1 h2
  have := h i h1
  rwa [List.getD_eq_getElem?_getD, List.getD_eq_getElem?_getD, List.getElem?_eq_getElem h1,
    List.getElem?_eq_getElem h2] at this

theorem range_map_getD (bits : List Bool) : (List.range bits.length).map (fun i => bits.getD i false) = bits :=
  ext_getD (by simp) fun i hi => getD_tab _ _ i (by simpa using hi)

theorem getD_append_lt (l : List Bool) (x : Bool) {i : Nat} (h : i < l.length) :
    (l ++ [x]).getD i false = l.getD i false := by
  simp [List.getD_eq_getElem?_getD, List.getElem?_append_left h]

theorem getD_append_length (l : List Bool) (x : Bool) : (l ++ [x]).getD l.length false = x := by
  simp [List.getD_eq_getElem?_getD]

end GV
