import GarbleVerif.Model.Bristol
import GarbleVerif.Proofs.SsaEval
/-!
# De-aliasing of repeated outputs in the Bristol export: the added XOR gates copy the wire
-/
namespace GV
namespace Bristol
open Circuit

/-- `dealias rest seen W _` returns the outputs `outs` and appends the gates `added`, where `W` is the
number of wires before `added` -/
structure DealiasOK (rest seen : List Nat) (W : Nat) (outs : List Nat) (added : List Gate) : Prop where
  len : outs.length = rest.length
  mem : ∀ x ∈ outs, (x ∈ rest ∧ x ∉ seen) ∨ W < x
  lt : ∀ x ∈ outs, x < W + added.length
  nodup : outs.Nodup
  valid : validateGates added W = .ok ()
  sem : ∀ ws : List Bool, ws.length = W → ∃ ext, evalGates added ws = some (ws ++ ext) ∧
    ext.length = added.length ∧ outs.map (fun o => (ws ++ ext)[o]?) = rest.map (fun o => ws[o]?)

theorem DealiasOK.nil (seen : List Nat) (W : Nat) : DealiasOK [] seen W [] [] :=
  ⟨rfl, by simp, by simp, by simp, rfl, fun ws _ => ⟨[], by simp [evalGates], rfl, rfl⟩⟩

/-- an output seen for the first time stays as it is -/
theorem DealiasOK.fresh {o W : Nat} {rest seen outs : List Nat} {added : List Gate} (ho : o < W)
    (hns : o ∉ seen) (h : DealiasOK rest (o :: seen) W outs added) :
    DealiasOK (o :: rest) seen W (o :: outs) added := by
  refine ⟨by simp [h.len], ?_, ?_, List.nodup_cons.mpr ⟨fun hm => ?_, h.nodup⟩, h.valid, fun ws hws => ?_⟩
  · intro x hx
    rcases List.mem_cons.mp hx with rfl | hx
    · exact .inl ⟨List.mem_cons_self .., hns⟩
    · rcases h.mem x hx with ⟨h1, h2⟩ | h2
      · exact .inl ⟨List.mem_cons_of_mem _ h1, fun hs => h2 (List.mem_cons_of_mem _ hs)⟩
      · exact .inr h2
  · intro x hx
    rcases List.mem_cons.mp hx with rfl | hx
    · exact Nat.lt_of_lt_of_le ho (Nat.le_add_right ..)
    · exact h.lt x hx
  · rcases h.mem o hm with ⟨_, h2⟩ | h2
    · exact h2 (List.mem_cons_self ..)
    · exact Nat.lt_asymm h2 ho
  · obtain ⟨ext, hev, hlen, hmap⟩ := h.sem ws hws
    exact ⟨ext, hev, hlen, by rw [List.map_cons, List.map_cons, hmap, List.getElem?_append_left (hws ▸ ho)]⟩

/-- the two gates added for a repeated output `o`: the first new wire is `o ^ o = false`, the second is
`o ^ false`, a copy of `o` -/
theorem evalGates_copy {o : Nat} {ws : List Bool} (ho : o < ws.length) :
    evalGates [.xor o o, .xor o ws.length] ws = some (ws ++ [false, ws[o]]) := by
  have e1 : evalGate ws (.xor o o) = some false := by simp [evalGate, List.getElem?_eq_getElem ho]
  have e2 : evalGate (ws ++ [false]) (.xor o ws.length) = some ws[o] := by
    simp [evalGate, List.getElem?_append_left ho]
  simp [evalGates, e1, e2]

/-- a repeated output `o` is replaced by the new wire `W + 1` -/
theorem DealiasOK.copy {o W : Nat} {rest seen outs : List Nat} {added : List Gate} (ho : o < W)
    (hrest : ∀ x ∈ rest, x < W) (h : DealiasOK rest seen (W + 2) outs added) :
    DealiasOK (o :: rest) seen W ((W + 1) :: outs) ([.xor o o, .xor o W] ++ added) := by
  refine ⟨by simp [h.len], ?_, ?_, List.nodup_cons.mpr ⟨fun hm => ?_, h.nodup⟩, ?_, fun ws hws => ?_⟩
  · intro x hx
    rcases List.mem_cons.mp hx with rfl | hx
    · exact .inr (Nat.lt_succ_self _)
    · rcases h.mem x hx with ⟨h1, h2⟩ | h2
      · exact .inl ⟨List.mem_cons_of_mem _ h1, h2⟩
      · exact .inr (Nat.lt_of_le_of_lt (Nat.le_add_right W 2) h2)
  · intro x hx
    simp only [List.length_append, List.length_cons, List.length_nil]
    rcases List.mem_cons.mp hx with rfl | hx
    · omega
    · have := h.lt x hx
      omega
  · rcases h.mem _ hm with ⟨h1, _⟩ | h2
    · exact Nat.lt_asymm (hrest _ h1) (Nat.lt_succ_self W)
    · exact Nat.lt_asymm h2 (Nat.lt_succ_self _)
  · simp [gateOk, ho, Nat.lt_succ_of_lt ho, h.valid]
  · subst hws
    obtain ⟨ext, hev, hlen, hmap⟩ := h.sem (ws ++ [false, ws[o]]) (by simp)
    refine ⟨[false, ws[o]] ++ ext, ?_, by simp [hlen], ?_⟩
    · rw [evalGates_append, evalGates_copy ho, Option.bind_some, hev, List.append_assoc]
    · rw [List.map_cons, List.map_cons, ← List.append_assoc, hmap]
      congr 1
      · simp
      · exact List.map_congr_left fun x hx => List.getElem?_append_left (hrest x hx)

theorem dealias_spec (rest : List Nat) : ∀ (seen : List Nat) (W : Nat) (extra : List Gate),
    (∀ o ∈ rest, o < W) →
    ∃ added, (dealias rest seen W extra).2 = extra ++ added ∧
      DealiasOK rest seen W (dealias rest seen W extra).1 added := by
  induction rest with
  | nil => exact fun seen W extra _ => ⟨[], by simp [dealias], DealiasOK.nil seen W⟩
  | cons o rest ih =>
    intro seen W extra hlt
    have ho : o < W := hlt o (List.mem_cons_self ..)
    have hrest : ∀ x ∈ rest, x < W := fun x hx => hlt x (List.mem_cons_of_mem _ hx)
    by_cases hs : o ∈ seen
    · obtain ⟨added, he, hok⟩ := ih seen (W + 2) (extra ++ [.xor o o, .xor o W])
        (fun x hx => Nat.lt_add_right 2 (hrest x hx))
      refine ⟨[.xor o o, .xor o W] ++ added, ?_, ?_⟩
      · simp [dealias, hs, he]
      · simpa [dealias, hs] using hok.copy ho hrest
    · obtain ⟨added, he, hok⟩ := ih (o :: seen) W extra hrest
      exact ⟨added, by simpa [dealias, hs] using he, by simpa [dealias, hs] using hok.fresh ho hs⟩

end Bristol
end GV
