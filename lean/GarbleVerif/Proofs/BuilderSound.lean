import GarbleVerif.Proofs.BuilderSem
/-! The two post-condition shapes: `Post` for `push_xor` / `push_and`, whose rewrite rules call themselves (`RecOk` in
PushSound is `Post` of the recursive call), and `Yields` / `YieldsAll` for everything built from them; a raw push keeps
`WF` (`pushGate_spec`); `optimize_xor` and the cache lookups. -/
namespace GV
namespace Builder

/-- post-condition of a request that returns wire `r.1` in builder `r.2` -/
def Post (b : Builder) (op : Bool → Bool → Bool) (x y : Nat) (r : Nat × Builder) : Prop :=
  WF r.2 ∧ Ext b r.2 ∧ r.1 < r.2.counter ∧
  ∀ inp, inp.length + 2 = b.shift → r.2.sem inp r.1 = op (b.sem inp x) (b.sem inp y)

theorem Post.of_same {b : Builder} {op : Bool → Bool → Bool} {x y w : Nat} (hb : WF b)
    (h : Has b w fun inp => op (b.sem inp x) (b.sem inp y)) : Post b op x y (w, b) :=
  ⟨hb, Ext.refl b, h.1, h.2⟩

theorem Post.congr {b : Builder} {op op' : Bool → Bool → Bool} {x y x' y' : Nat} {r : Nat × Builder}
    (h : Post b op' x' y' r)
    (heq : ∀ inp, inp.length + 2 = b.shift → op' (b.sem inp x') (b.sem inp y') = op (b.sem inp x) (b.sem inp y)) :
    Post b op x y r := by
  obtain ⟨h1, h2, h3, h4⟩ := h
  exact ⟨h1, h2, h3, fun inp hi => by rw [h4 inp hi, heq inp hi]⟩

/-- the builder `r.2` extends `b`, keeps the invariant `WF`, and its wire `r.1` carries `v` -/
def Yields (b : Builder) (r : Nat × Builder) (v : List Bool → Bool) : Prop :=
  WF r.2 ∧ Ext b r.2 ∧ Has r.2 r.1 v

theorem Yields.post {b : Builder} {op : Bool → Bool → Bool} {x y : Nat} {r : Nat × Builder}
    (h : Yields b r fun inp => op (b.sem inp x) (b.sem inp y)) : Post b op x y r :=
  ⟨h.1, h.2.1, h.2.2.1, fun inp hi => h.2.2.2 inp (by rw [h.2.1.shift]; exact hi)⟩

theorem Post.yields {b : Builder} {op : Bool → Bool → Bool} {x y : Nat} {r : Nat × Builder}
    (h : Post b op x y r) {vx vy : List Bool → Bool} (hx : Has b x vx) (hy : Has b y vy) :
    Yields b r fun inp => op (vx inp) (vy inp) :=
  ⟨h.1, h.2.1, h.2.2.1, fun inp hi => by
    rw [h.2.1.shift] at hi
    rw [h.2.2.2 inp hi, hx.2 inp hi, hy.2 inp hi]⟩

/-- `Yields` with names for the two components of `r`: written with projections, the state after a chain of
requests is a term that doubles at every request -/
theorem Yields.exists {b : Builder} {r : Nat × Builder} {v : List Bool → Bool} (h : Yields b r v) :
    ∃ w b1, r = (w, b1) ∧ WF b1 ∧ Ext b b1 ∧ Has b1 w v :=
  ⟨r.1, r.2, rfl, h⟩

/-- `Yields` for a request that returns a list of wires -/
def YieldsAll (b : Builder) (r : List Nat × Builder) (vs : List Bool → List Bool) : Prop :=
  WF r.2 ∧ Ext b r.2 ∧ HasAll r.2 r.1 vs

theorem YieldsAll.exists {b : Builder} {r : List Nat × Builder} {vs : List Bool → List Bool} (h : YieldsAll b r vs) :
    ∃ ws b1, r = (ws, b1) ∧ WF b1 ∧ Ext b b1 ∧ HasAll b1 ws vs :=
  ⟨r.1, r.2, rfl, h⟩

theorem pushGate_ext (b : Builder) (g : BGate) : Ext b (b.pushGate g).2 :=
  ⟨rfl, rfl, ⟨[g], rfl⟩⟩

theorem pushGate_counter (b : Builder) (g : BGate) : (b.pushGate g).2.counter = b.counter + 1 := by
  show b.shift + (b.gates ++ [g]).length = b.shift + b.gates.length + 1
  rw [List.length_append]; rfl

theorem pushGate_sem_new (b : Builder) (g : BGate) (inp : List Bool) (hi : inp.length + 2 = b.shift) :
    (b.pushGate g).2.sem inp b.counter = gateVal (b.vals inp) g := by
  have h := valsFrom_getD_gate (false :: true :: inp) (b.gates ++ [g]) b.gates.length g (by simp)
  rw [List.take_left, show (false :: true :: inp).length = b.shift from hi] at h
  exact h

theorem pushGate_getElem? (b : Builder) (g g' : BGate) (i : Nat) (h : (b.pushGate g).2.gates[i]? = some g') :
    (i < b.gates.length ∧ b.gates[i]? = some g') ∨ (i = b.gates.length ∧ g' = g) := by
  have hi := (List.getElem?_eq_some_iff.mp h).1
  simp only [pushGate, List.length_append, List.length_singleton] at h hi
  rcases Nat.lt_or_ge i b.gates.length with hlt | hge
  · rw [List.getElem?_append_left hlt] at h
    exact Or.inl ⟨hlt, h⟩
  · obtain rfl : i = b.gates.length := Nat.le_antisymm (Nat.le_of_lt_succ hi) hge
    rw [List.getElem?_concat_length] at h
    exact Or.inr ⟨rfl, (Option.some.inj h).symm⟩

def samePair (x y x' y' : Nat) : Prop := (x = x' ∧ y = y') ∨ (x = y' ∧ y = x')

theorem samePair.symm {x y x' y' : Nat} (h : samePair x y x' y') : samePair x' y' x y := by
  rcases h with ⟨rfl, rfl⟩ | ⟨rfl, rfl⟩
  · exact Or.inl ⟨rfl, rfl⟩
  · exact Or.inr ⟨rfl, rfl⟩

/-- A pushed gate keeps the invariant if its operands exist, it is not an AND gate that `optimize_and` would
have folded (`hn`) and, with de-duplication on, not an AND gate over a pair that is already there (`hu`). -/
theorem pushGate_spec {b : Builder} (hb : WF b) (g : BGate) (hg : opsLt g b.counter)
    (hn : ∀ x y, g = .and x y → x ≠ y ∧ 2 ≤ x ∧ 2 ≤ y)
    (hu : b.cacheOn = true → ∀ x y, g = .and x y → ∀ (i x' y' : Nat), b.gates[i]? = some (BGate.and x' y') →
      ¬ samePair x y x' y') :
    Yields b (b.pushGate g) fun inp => gateVal (b.vals inp) g := by
  have hext := pushGate_ext b g
  have hcnt := pushGate_counter b g
  refine ⟨⟨hb.shift2, ?ops, ?cs, ?ns, ?an, ?cc, ?au⟩, hext, show b.counter < _ by rw [hcnt]; omega,
    pushGate_sem_new b g⟩
  case ops =>
    intro i g' hi
    rcases pushGate_getElem? b g _ i hi with ⟨_, hold⟩ | ⟨rfl, rfl⟩
    · exact hb.ops i g' hold
    · exact hg
  case cs =>
    intro g' w hgw
    have hold : b.cache[g']? = some w → w < (b.pushGate g).2.counter ∧ opsLt g' (b.pushGate g).2.counter ∧
        ∀ inp, inp.length + 2 = b.shift → (b.pushGate g).2.sem inp w = gateVal ((b.pushGate g).2.vals inp) g' := by
      intro h
      obtain ⟨h1, h2, h3⟩ := hb.cacheSound g' w h
      refine ⟨Nat.lt_of_lt_of_le h1 hext.counter_le, opsLt_mono h2 hext.counter_le, fun inp hi => ?_⟩
      rw [hext.sem_eq inp hi w h1, hext.gateVal_eq inp hi g' h2, h3 inp hi]
    cases hc : b.cacheOn with
    | false => simp only [pushGate, hc] at hgw; exact hold hgw
    | true =>
      simp only [pushGate, hc, if_true, Std.HashMap.getElem?_insert] at hgw
      rcases of_ite_eq_some hgw with ⟨e, rfl⟩ | ⟨-, h⟩
      · obtain rfl : g = g' := eq_of_beq e
        refine ⟨by rw [hcnt]; omega, opsLt_mono hg hext.counter_le, fun inp hi => ?_⟩
        rw [pushGate_sem_new b g inp hi, hext.gateVal_eq inp hi g hg]
      · exact hold h
  case ns =>
    intro a n han
    obtain ⟨h1, h2, h3⟩ := hb.negSound a n han
    refine ⟨Nat.lt_of_lt_of_le h1 hext.counter_le, Nat.lt_of_lt_of_le h2 hext.counter_le, fun inp hi => ?_⟩
    rw [hext.sem_eq inp hi n h2, hext.sem_eq inp hi a h1, h3 inp hi]
  case an =>
    intro i x y hi
    rcases pushGate_getElem? b g _ i hi with ⟨_, hold⟩ | ⟨_, hnew⟩
    · exact hb.andNorm i x y hold
    · exact hn x y hnew.symm
  case cc =>
    intro hc i x y hi
    have hc' : b.cacheOn = true := hc
    simp only [pushGate, hc', if_true, Std.HashMap.getElem?_insert]
    split
    · rfl
    · rename_i hne
      rcases pushGate_getElem? b g _ i hi with ⟨_, hold⟩ | ⟨_, hnew⟩
      · exact hb.cacheCover hc' i x y hold
      · exact absurd (by simp [hnew]) hne
  case au =>
    intro hc i j x y x' y' hi hj hsame
    have hc' : b.cacheOn = true := hc
    rcases pushGate_getElem? b g _ i hi with ⟨_, hio⟩ | ⟨hil, hin⟩ <;>
    rcases pushGate_getElem? b g _ j hj with ⟨_, hjo⟩ | ⟨hjl, hjn⟩
    · exact hb.andUniq hc' i j x y x' y' hio hjo hsame
    · exact absurd (samePair.symm hsame) (hu hc' x' y' hjn.symm i x y hio)
    · exact absurd hsame (hu hc' x y hin.symm j x' y' hjo)
    · rw [hil, hjl]

/-- `pushGate_spec` for an XOR gate: its two side conditions speak of AND gates only -/
theorem pushXorGate_yields {b : Builder} (hb : WF b) {x y : Nat} (hx : x < b.counter) (hy : y < b.counter) :
    Yields b (b.pushGate (.xor x y)) fun inp => gateVal (b.vals inp) (.xor x y) :=
  pushGate_spec hb (.xor x y) ⟨hx, hy⟩ nofun (fun _ _ _ h => nomatch h)

theorem pushXorGate_post {b : Builder} (hb : WF b) {x y : Nat} (hx : x < b.counter) (hy : y < b.counter) :
    Post b (· ^^ ·) x y (b.pushGate (.xor x y)) :=
  (pushXorGate_yields hb hx hy).post

/-- The invariant looks at the `negated` table through `negSound` only; `hm` is stated about `b` itself (`b.sem`,
`b.counter`), not about the updated record, so that facts about `b` rewrite it. -/
theorem WF.withNegated {b : Builder} (hb : WF b) (m : Std.HashMap Nat Nat)
    (hm : ∀ a n, m[a]? = some n → a < b.counter ∧ n < b.counter ∧
      ∀ inp, inp.length + 2 = b.shift → b.sem inp n = !b.sem inp a) :
    WF { b with negated := m } :=
  ⟨hb.shift2, hb.ops, hb.cacheSound, hm, hb.andNorm, hb.cacheCover, hb.andUniq⟩

theorem Post.withNegated {b : Builder} {op : Bool → Bool → Bool} {x y : Nat} {r : Nat × Builder}
    (h : Post b op x y r) (m : Std.HashMap Nat Nat) (hwf : WF { r.2 with negated := m }) :
    Post b op x y (r.1, { r.2 with negated := m }) :=
  ⟨hwf, ⟨h.2.1.shift, h.2.1.cacheOn, h.2.1.gates⟩, h.2.2.1, h.2.2.2⟩

theorem WF.insertNeg {b : Builder} (hb : WF b) {z w : Nat} (hz : z < b.counter) (hw : w < b.counter)
    (h : ∀ inp, inp.length + 2 = b.shift → b.sem inp w = !b.sem inp z) :
    WF { b with negated := (b.negated.insert z w).insert w z } := by
  refine hb.withNegated _ fun a n han => ?_
  simp only [Std.HashMap.getElem?_insert] at han
  rcases of_ite_eq_some han with ⟨e, rfl⟩ | ⟨-, han⟩
  · obtain rfl : w = a := eq_of_beq e
    exact ⟨hw, hz, fun inp hi => by rw [h inp hi, Bool.not_not]⟩
  rcases of_ite_eq_some han with ⟨e, rfl⟩ | ⟨-, han⟩
  · obtain rfl : z = a := eq_of_beq e
    exact ⟨hz, hw, h⟩
  · exact hb.negSound a n han

/-- `push_xor` records the result of `1 ^ z` (or `z ^ 1`) as the negation of `z`; the post-condition sees the
`negated` table through the invariant only -/
theorem Post.insertNegIf {b : Builder} {op : Bool → Bool → Bool} {x y : Nat} {r : Nat × Builder}
    (h : Post b op x y r) (c : Prop) [Decidable c] {z : Nat} (hz : z < b.counter)
    (hneg : c → ∀ inp, op (b.sem inp x) (b.sem inp y) = !b.sem inp z) :
    Post b op x y (r.1, if c then { r.2 with negated := (r.2.negated.insert z r.1).insert r.1 z } else r.2) := by
  split
  · rename_i hc
    obtain ⟨wf, e, hlt, hs⟩ := h
    refine Post.withNegated ⟨wf, e, hlt, hs⟩ _ (wf.insertNeg (Nat.lt_of_lt_of_le hz e.counter_le) hlt fun inp hi => ?_)
    rw [e.shift] at hi
    rw [hs inp hi, e.sem_eq inp hi z hz, hneg hc]
  · exact h

theorem pushXorRaw_post {b : Builder} (hb : WF b) (x y : Nat) (hx : x < b.counter) (hy : y < b.counter) :
    Post b (· ^^ ·) x y (b.pushXorRaw x y) :=
  ((pushXorGate_post hb hx hy).insertNegIf (x = 1) hy fun e inp => by rw [e, sem_one, Bool.true_xor]).insertNegIf
    (y = 1) hx fun e inp => by rw [e, sem_one, Bool.xor_true]

theorem getCached_sound {b : Builder} (hb : WF b) (g : BGate) (w : Nat) (h : b.getCached g = some w) :
    Has b w fun inp => gateVal (b.vals inp) g := by
  simp only [getCached] at h
  split at h
  · cases h
  · split at h
    · rename_i w' hw'
      cases h
      exact ⟨(hb.cacheSound g w hw').1, (hb.cacheSound g w hw').2.2⟩
    · -- found under the operands in the other order
      cases g with
      | xor x y =>
        have := hb.cacheSound _ w h
        exact ⟨this.1, fun inp hi => by rw [this.2.2 inp hi, gateVal_xor, gateVal_xor, Bool.xor_comm]⟩
      | and x y =>
        have := hb.cacheSound _ w h
        exact ⟨this.1, fun inp hi => by rw [this.2.2 inp hi, gateVal_and, gateVal_and, Bool.and_comm]⟩

theorem neg_has {b : Builder} (hb : WF b) {a n : Nat} (h : b.negated[a]? = some n) :
    Has b n fun inp => !b.sem inp a :=
  ⟨(hb.negSound a n h).2.1, (hb.negSound a n h).2.2⟩

theorem optimizeXor_sound {b : Builder} (hb : WF b) (x y w : Nat) (hx : x < b.counter) (hy : y < b.counter)
    (h : b.optimizeXor x y = some w) : Has b w fun inp => b.sem inp x ^^ b.sem inp y := by
  have c2 := hb.two_le_counter
  unfold optimizeXor at h
  rcases of_ite_eq_some h with ⟨rfl, rfl⟩ | ⟨-, h⟩
  · exact ⟨hy, fun inp _ => by rw [sem_zero, Bool.false_xor]⟩
  rcases of_ite_eq_some h with ⟨rfl, rfl⟩ | ⟨-, h⟩
  · exact ⟨hx, fun inp _ => by rw [sem_zero, Bool.xor_false]⟩
  rcases of_ite_eq_some h with ⟨rfl, rfl⟩ | ⟨-, h⟩
  · exact ⟨by omega, fun inp _ => by rw [sem_zero, Bool.xor_self]⟩
  -- `x` or `y` has a recorded negation `n`: the answer is `1` if the other operand is `n`, and `n` if it is `1`
  have viaNeg : ∀ {a n o : Nat}, b.negated[a]? = some n →
      (if n = o then some 1 else if o = 1 then some n else none) = some w →
      Has b w fun inp => b.sem inp a ^^ b.sem inp o := by
    intro a n o han h
    have hn := neg_has hb han
    rcases of_ite_eq_some h with ⟨rfl, rfl⟩ | ⟨-, h⟩
    · exact ⟨by omega, fun inp hi => by rw [sem_one, hn.2 inp hi]; cases b.sem inp a <;> rfl⟩
    rcases of_ite_eq_some h with ⟨rfl, rfl⟩ | ⟨-, h⟩
    · exact ⟨hn.1, fun inp hi => by rw [sem_one, hn.2 inp hi]; cases b.sem inp a <;> rfl⟩
    · cases h
  simp only at h
  split at h
  · rename_i w' hv
    cases h
    split at hv
    · exact viaNeg ‹_› hv
    · split at hv
      · exact (viaNeg ‹_› hv).congr fun inp _ => Bool.xor_comm _ _
      · cases hv
  · exact getCached_sound hb _ w h

end Builder
end GV
