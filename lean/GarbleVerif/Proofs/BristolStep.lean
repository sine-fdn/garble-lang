import GarbleVerif.Model.Bristol
/-! `applyGate` taken apart: which gate a line denotes (`decodeGate`) and what assigning wire `ow`
does to the importer state (`stepSt`). Totality and the round trip both reason about these two. -/
namespace GV
namespace Bristol

structure StInv (W I O : Nat) (st : ImportSt) : Prop where
  wmLen : st.wiresMap.length = W - I
  outLen : st.outputGates.length = O

/-- the gate denoted by gate type `gt` with operand wires `iw`, read through `rd` -/
def decodeGate (rd : Nat → Except ImportError Nat) (gt : Tok) (iw : List Nat) : Except ImportError Gate :=
  match gt with
  | .word "XOR" =>
    match iw with
    | [a, b] => do let x ← rd a; let y ← rd b; pure (.xor x y)
    | _ => .error .malformedLine
  | .word "AND" =>
    match iw with
    | [a, b] => do let x ← rd a; let y ← rd b; pure (.and x y)
    | _ => .error .malformedLine
  | .word "INV" =>
    match iw with
    | [a] => do let x ← rd a; pure (.not x)
    | _ => .error .malformedLine
  | _ => .error .unknownGate

/-- wire `w` gets the value `v` in a table whose first entry belongs to wire `base` -/
def assign (l : List Nat) (base w v : Nat) : List Nat :=
  if w ≥ base then l.set (w - base) v else l

theorem assign_length (l : List Nat) (base w v : Nat) : (assign l base w v).length = l.length := by
  unfold assign
  split <;> simp

theorem getElem?_assign_self {l : List Nat} {base w : Nat} (v : Nat) (hb : base ≤ w) (hl : w - base < l.length) :
    (assign l base w v)[w - base]? = some v := by
  rw [assign, if_pos hb, List.getElem?_set_self hl]

theorem getElem?_assign_ne (l : List Nat) {base w w' : Nat} (v : Nat) (hb : base ≤ w') (hne : w ≠ w') :
    (assign l base w v)[w' - base]? = l[w' - base]? := by
  unfold assign
  split
  · exact List.getElem?_set_ne (by omega)
  · rfl

/-- the state after a gate line with output wire `ow` that denotes `g` -/
def stepSt (W I O : Nat) (st : ImportSt) (ow : Nat) (g : Gate) : ImportSt :=
  { wiresMap := assign st.wiresMap I ow st.nextWire
    nextWire := st.nextWire + 1
    gates := st.gates ++ [g]
    outputGates := assign st.outputGates (W - O) ow st.nextWire }

theorem stepSt_inv {W I O : Nat} {st : ImportSt} (h : StInv W I O st) (ow : Nat) (g : Gate) :
    StInv W I O (stepSt W I O st ow g) :=
  ⟨(assign_length ..).trans h.wmLen, (assign_length ..).trans h.outLen⟩

/-- with the state in shape and `ow` in range, `applyGate` is `decodeGate` through the updated map, then `stepSt` -/
theorem applyGate_eq {W I O : Nat} {st : ImportSt} (hinv : StInv W I O st) {ow : Nat} (how : ow < W)
    (iw : List Nat) (gt : Tok) :
    applyGate W I O st iw ow gt =
      (decodeGate (mapWire I (assign st.wiresMap I ow st.nextWire)) gt iw).map (stepSt W I O st ow) := by
  have g1 : ¬ (ow ≥ W - O ∧ ¬ (ow - (W - O) < st.outputGates.length)) := by
    rw [hinv.outLen]
    exact fun ⟨h1, h2⟩ => h2 (Nat.sub_lt_left_of_lt_add h1
      (Nat.lt_of_lt_of_le how (Nat.le_add_of_sub_le (Nat.le_refl _))))
  have g2 : ¬ (ow ≥ I ∧ ¬ (ow - I < st.wiresMap.length)) := by
    rw [hinv.wmLen]
    exact fun ⟨h1, h2⟩ => h2 (Nat.sub_lt_sub_right h1 how)
  unfold applyGate stepSt assign
  rw [if_neg g1, if_neg g2]
  -- the two updated tables are opaque to the decoding; hiding them lets `split` find the gate match
  generalize (if ow ≥ I then _ else _ : List Nat) = wm
  generalize (if ow ≥ W - O then _ else _ : List Nat) = og
  dsimp only
  split
  -- "XOR": two operands / any other operand list
  · split
    · simp only [decodeGate]
      cases mapWire I wm _ <;> cases mapWire I wm _ <;> rfl
    · simp only [decodeGate, *]
      rfl
  -- "AND": two operands / any other operand list
  · split
    · simp only [decodeGate]
      cases mapWire I wm _ <;> cases mapWire I wm _ <;> rfl
    · simp only [decodeGate, *]
      rfl
  -- "INV": one operand / any other operand list
  · split
    · simp only [decodeGate]
      cases mapWire I wm _ <;> rfl
    · simp only [decodeGate, *]
      rfl
  -- any other gate type
  · simp only [decodeGate, *]
    rfl

end Bristol
end GV
