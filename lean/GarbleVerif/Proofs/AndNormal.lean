import GarbleVerif.Proofs.BuildSound
/-!
# No AND gate of a built circuit has a constant operand or the same wire twice

The builder never pushes such a gate (`WF.andNorm`, maintained by `push_and` through `optimize_and` and by the
AND-factoring rule of `push_xor`); removing unused gates and renumbering the wires is injective on the wires
that are still referenced and sends only the two constants to the constant gates.
-/
namespace GV
namespace Builder

theorem convGate_eq_and {shift : Nat} {g : BGate} {x y : Nat} (h : convGate shift g = .and x y) :
    ∃ a c, g = .and a c ∧ x = fIdx shift a ∧ y = fIdx shift c := by
  cases g with
  | xor a c =>
    simp only [convGate] at h
    split at h
    · cases h
    · split at h <;> cases h
  | and a c => cases h; exact ⟨a, c, rfl, rfl, rfl⟩

/-- an AND gate of the built circuit, traced back to the builder's gate list: a used AND gate whose operands
are kept and no constants -/
theorem build_and_origin (b : Builder) (ig pw outs : List Nat) (hb : WF b) (i x y : Nat)
    (h : (b.build ig pw outs).gates[i]? = some (Gate.and x y)) :
    ∃ p a c, b.gates[p]? = some (BGate.and a c) ∧ i = newPos (mark b.shift b.gates (outs ++ pw)) p + 2 ∧
      (x = fIdx b.shift (remap b.shift (mark b.shift b.gates (outs ++ pw)) a) ∧ 2 ≤ a ∧
        Kept b.shift (mark b.shift b.gates (outs ++ pw)) a) ∧
      (y = fIdx b.shift (remap b.shift (mark b.shift b.gates (outs ++ pw)) c) ∧ 2 ≤ c ∧
        Kept b.shift (mark b.shift b.gates (outs ++ pw)) c) := by
  obtain ⟨-, hcl, -⟩ := mark_spec b.shift b.gates (outs ++ pw) hb.ops
  match i with
  | 0 => cases h
  | 1 => cases h
  | i + 2 =>
    obtain ⟨p, g0, hgp, hup, rfl, he⟩ := (build_gates_getElem? ..).mp h
    obtain ⟨a', c', hg0, rfl, rfl⟩ := convGate_eq_and he.symm
    cases g0 with
    | xor a c => cases hg0
    | and a c =>
      cases hg0
      obtain ⟨-, ha2, hc2⟩ := hb.andNorm p a c hgp
      exact ⟨p, a, c, hgp, rfl, ⟨rfl, ha2, hcl.kept hgp hup (Or.inl rfl)⟩, ⟨rfl, hc2, hcl.kept hgp hup (Or.inr rfl)⟩⟩

theorem build_andNormal (b : Builder) (ig pw outs : List Nat) (hb : WF b) (hshift : b.shift = ig.sum + 2) :
    ∀ x y, Gate.and x y ∈ (b.build ig pw outs).gates →
      x ≠ y ∧ x ≠ ig.sum ∧ x ≠ ig.sum + 1 ∧ y ≠ ig.sum ∧ y ≠ ig.sum + 1 := by
  intro x y hmem
  have hs : 2 ≤ b.shift := hb.shift2
  obtain ⟨i, hi⟩ := List.getElem?_of_mem hmem
  obtain ⟨p, a, c, hgp, -, ⟨rfl, ha2, hka⟩, ⟨rfl, hc2, hkc⟩⟩ := build_and_origin b ig pw outs hb i x y hi
  -- an input or a kept gate is not sent to one of the constant gates `shift - 2`, `shift - 1`
  have nc : ∀ {w}, 2 ≤ w → Kept b.shift (mark b.shift b.gates (outs ++ pw)) w →
      fIdx b.shift (remap b.shift (mark b.shift b.gates (outs ++ pw)) w) ≠ ig.sum ∧
      fIdx b.shift (remap b.shift (mark b.shift b.gates (outs ++ pw)) w) ≠ ig.sum + 1 := by
    intro w h2 hk
    rcases Nat.lt_or_ge w b.shift with hlt | hge
    · rw [finalWire_inp _ h2 hlt]; omega
    · rw [finalWire_gate hs hge (hk hge)]; omega
  exact ⟨fun h => (hb.andNorm p a c hgp).1 (finalWire_inj hs ha2 hc2 hka hkc h), (nc ha2 hka).1, (nc ha2 hka).2,
    (nc hc2 hkc).1, (nc hc2 hkc).2⟩

theorem build_andUnique (b : Builder) (ig pw outs : List Nat) (hb : WF b) (hc : b.cacheOn = true) :
    ∀ (i j : Nat) x y x' y', (b.build ig pw outs).gates[i]? = some (Gate.and x y) →
      (b.build ig pw outs).gates[j]? = some (Gate.and x' y') →
      ((x = x' ∧ y = y') ∨ (x = y' ∧ y = x')) → i = j := by
  intro i j x y x' y' hi hj hsame
  obtain ⟨p, a, c, hgp, rfl, ⟨rfl, ha2, hka⟩, ⟨rfl, hc2, hkc⟩⟩ := build_and_origin b ig pw outs hb i x y hi
  obtain ⟨q, a', c', hgq, rfl, ⟨rfl, ha2', hka'⟩, ⟨rfl, hc2', hkc'⟩⟩ := build_and_origin b ig pw outs hb j x' y' hj
  have inj := @finalWire_inj b.shift (mark b.shift b.gates (outs ++ pw)) hb.shift2
  have hpair : (a = a' ∧ c = c') ∨ (a = c' ∧ c = a') := by
    rcases hsame with ⟨e1, e2⟩ | ⟨e1, e2⟩
    · exact Or.inl ⟨inj ha2 ha2' hka hka' e1, inj hc2 hc2' hkc hkc' e2⟩
    · exact Or.inr ⟨inj ha2 hc2' hka hkc' e1, inj hc2 ha2' hkc hka' e2⟩
  rw [hb.andUniq hc p q a c a' c' hgp hgq hpair]

end Builder
end GV
