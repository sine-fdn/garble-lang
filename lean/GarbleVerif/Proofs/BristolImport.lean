import GarbleVerif.Proofs.BristolWm
import GarbleVerif.Proofs.SsaEval
import GarbleVerif.Proofs.BristolStep
/-!
# Importing what the exporter wrote gives back the exported gates
-/
namespace GV
namespace Bristol
open Circuit

namespace WmOK
variable {TI TW : Nat} {outs : List Nat} {f : Nat → Nat} (h : WmOK TI TW outs f)
include h

theorem lt {i : Nat} (hi : i < TW) : f i < TW := by
  by_cases hI : i < TI
  · rw [h.inputs i hI]
    exact hi
  · exact (h.range i (by omega) hi).2

theorem ne_of_lt {i j : Nat} (hi : i < TW) (hj : j < i) : f i ≠ f j :=
  fun e => Nat.ne_of_gt hj (h.inj i j hi (Nat.lt_trans hj hi) e)

theorem ge_of_mem {o : Nat} (ho : o ∈ outs) : TW - outs.length ≤ f o := by
  obtain ⟨k, hk, rfl⟩ := List.getElem_of_mem ho
  rw [h.outs_at k hk]
  exact Nat.le_add_right ..

end WmOK

/-- the gate line the exporter writes, with the renumbering as a function -/
def lineOf (f : Nat → Nat) (g : Gate) (out : Nat) : Line :=
  match g with
  | .xor x y => [.num 2, .num 1, .num (f x), .num (f y), .num out, .word "XOR"]
  | .and x y => [.num 2, .num 1, .num (f x), .num (f y), .num out, .word "AND"]
  | .not x => [.num 1, .num 1, .num (f x), .num out, .word "INV"]

def linesOf (f : Nat → Nat) (TI : Nat) : List Gate → Nat → List Line
  | [], _ => []
  | g :: gs, i => lineOf f g (f (i + TI)) :: linesOf f TI gs (i + 1)

theorem range_map_getElem? (f : Nat → Nat) (TW x : Nat) (h : x < TW) : ((List.range TW).map f)[x]? = some (f x) := by
  simp [h]

theorem gateLine_eq {wm : List Nat} {f : Nat → Nat} {n : Nat} (hwm : ∀ x, x < n → wm[x]? = some (f x))
    {g : Gate} (hg : gateOk g n = true) (out : Nat) : gateLine wm g out = some (lineOf f g out) := by
  cases g <;> simp only [gateOk, Bool.and_eq_true, decide_eq_true_eq] at hg <;>
    simp [gateLine, lineOf, hwm, hg]

theorem lines_eq {wm : List Nat} {f : Nat → Nat} {TI TW : Nat} (hwm : ∀ x, x < TW → wm[x]? = some (f x))
    (gs : List Gate) (i : Nat) (hv : validateGates gs (i + TI) = .ok ()) (hl : i + gs.length + TI ≤ TW) :
    exportLines.lines TI wm gs i = .ok (linesOf f TI gs i) := by
  induction gs generalizing i with
  | nil => rfl
  | cons g gs ih =>
    obtain ⟨hg, hv⟩ := (validateGates_cons ..).mp hv
    rw [List.length_cons, ← Nat.add_assoc, Nat.add_right_comm i] at hl
    have hi : i + TI < TW := by omega
    simp only [exportLines.lines, linesOf, hwm (i + TI) hi, gateLine_eq (fun x hx => hwm x (Nat.lt_trans hx hi)) hg,
      ih (i + 1) (by rwa [Nat.add_right_comm]) hl]

theorem parse_bin (TW : Nat) {a b out : Nat} (s : String) (ha : a < TW) (hb : b < TW) (ho : out < TW) :
    parseGateLine TW [.num 2, .num 1, .num a, .num b, .num out, .word s] = .ok ([a, b], out, .word s) := by
  simp [parseGateLine, tokNum, List.mapM_cons, List.mapM_nil, bind, Except.bind, pure, Except.pure,
    Nat.not_le.mpr ha, Nat.not_le.mpr hb, Nat.not_le.mpr ho]

theorem parse_un (TW : Nat) {a out : Nat} (s : String) (ha : a < TW) (ho : out < TW) :
    parseGateLine TW [.num 1, .num 1, .num a, .num out, .word s] = .ok ([a], out, .word s) := by
  simp [parseGateLine, tokNum, List.mapM_cons, List.mapM_nil, bind, Except.bind, pure, Except.pure,
    Nat.not_le.mpr ha, Nat.not_le.mpr ho]

/-- an exported gate line whose operands read back as what they were is imported as the gate it was
written from -/
theorem importGate_lineOf {W I O : Nat} {st : ImportSt} (hinv : StInv W I O st) {f : Nat → Nat}
    {g : Gate} {n out : Nat} (hout : out < W) (hg : gateOk g n = true) (hf : ∀ x, x < n → f x < W)
    (hrd : ∀ x, x < n → mapWire I (assign st.wiresMap I out st.nextWire) (f x) = .ok x) :
    importGate W I O st (lineOf f g out) = .ok (stepSt W I O st out g) := by
  cases g <;> simp only [gateOk, Bool.and_eq_true, decide_eq_true_eq] at hg <;>
    simp only [importGate, lineOf, List.isEmpty_cons, Bool.false_eq_true, if_false, parse_bin, parse_un,
      applyGate_eq hinv hout, decodeGate, hf, hrd, hg, hout] <;>
    rfl

/-- the importer's state after the exported gates `pre`: every wire assigned so far sits in the slot of
its new number -/
structure Inv (TW TI : Nat) (outs : List Nat) (f : Nat → Nat) (pre : List Gate) (st : ImportSt) : Prop
    extends StInv TW TI outs.length st where
  next : st.nextWire = pre.length + TI
  gatesEq : st.gates = pre
  wmAt : ∀ w, TI ≤ w → w < pre.length + TI → st.wiresMap[f w - TI]? = some w
  outAt : ∀ o ∈ outs, o < pre.length + TI → st.outputGates[f o - (TW - outs.length)]? = some o

/-- a table that holds `w` at index `f w - base` for the wires `w < n` of a class `S` still does so
after wire `n` is assigned, provided `f` does not send an earlier wire where it sends `n` -/
theorem assign_slots {l : List Nat} {base n : Nat} {f : Nat → Nat} {S : Nat → Prop}
    (hl : ∀ w, S w → w < n → l[f w - base]? = some w) (hb : ∀ w, S w → w ≤ n → base ≤ f w)
    (hne : ∀ w, w < n → f n ≠ f w) (hn : S n → f n - base < l.length) :
    ∀ w, S w → w < n + 1 → (assign l base (f n) n)[f w - base]? = some w := by
  intro w hS hw
  rcases Nat.lt_succ_iff_lt_or_eq.mp hw with hw | rfl
  · rw [getElem?_assign_ne _ _ (hb w hS (Nat.le_of_lt hw)) (hne w hw)]
    exact hl w hS hw
  · exact getElem?_assign_self _ (hb w hS (Nat.le_refl w)) (hn hS)

section step
variable {TI TW : Nat} {outs : List Nat} {f : Nat → Nat} (hf : WmOK TI TW outs f)
  {pre : List Gate} {st : ImportSt} (hinv : Inv TW TI outs f pre st) (hlt : pre.length + TI < TW)
include hf hinv hlt

/-- reading an operand that was defined before the wire being assigned -/
theorem read_operand (x : Nat) (hx : x < pre.length + TI) :
    mapWire TI (assign st.wiresMap TI (f (pre.length + TI)) st.nextWire) (f x) = .ok x := by
  unfold mapWire
  by_cases hI : x < TI
  · rw [hf.inputs x hI, if_pos hI]
  · have hxI := Nat.le_of_not_lt hI
    have hge := (hf.range x hxI (Nat.lt_trans hx hlt)).1
    rw [if_neg (Nat.not_lt.mpr hge), getElem?_assign_ne _ _ hge (hf.ne_of_lt hlt hx), hinv.wmAt x hxI hx]

theorem inv_next (g : Gate) :
    Inv TW TI outs f (pre ++ [g]) (stepSt TW TI outs.length st (f (pre.length + TI)) g) := by
  have hlen : (pre ++ [g]).length + TI = pre.length + TI + 1 := by
    rw [List.length_append, List.length_singleton, Nat.add_right_comm]
  refine { stepSt_inv hinv.toStInv _ g with next := ?_, gatesEq := ?_, wmAt := ?_, outAt := ?_ }
  · rw [hlen, ← hinv.next]
    rfl
  · rw [← hinv.gatesEq]
    rfl
  · rw [hlen, stepSt, hinv.next]
    refine assign_slots hinv.wmAt (fun w hw hn => (hf.range w hw (Nat.lt_of_le_of_lt hn hlt)).1)
      (fun _ => hf.ne_of_lt hlt) fun hn => ?_
    rw [hinv.wmLen]
    exact Nat.sub_lt_sub_right (hf.range _ hn hlt).1 (hf.lt hlt)
  · rw [hlen, stepSt, hinv.next]
    refine assign_slots hinv.outAt (fun o ho _ => hf.ge_of_mem ho) (fun _ => hf.ne_of_lt hlt) fun ho => ?_
    rw [hinv.outLen]
    refine Nat.sub_lt_left_of_lt_add (hf.ge_of_mem ho) ?_
    rw [Nat.sub_add_cancel (Nat.le_trans hf.outs_le (Nat.sub_le ..))]
    exact hf.lt hlt

end step

end Bristol
end GV
