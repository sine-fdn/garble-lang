import GarbleVerif.Proofs.ArithBE
/-! Comparator, equality, casts against integer arithmetic — every width; before the casts, how `toNat` reads a list that
is appended to, cut or padded. -/
namespace GV
namespace Arith

/-- once the accumulators differ the scan is decided -/
theorem cmp_decided (sx sy g : Bool) (i : Nat) (xs ys : List Bool) :
    comparator.go sx sy i xs ys g (!g) = (!g, g) := by
  induction xs generalizing ys i with
  | nil => simp [comparator.go]
  | cons a xs ih =>
    cases ys with
    | nil => simp [comparator.go]
    | cons b ys =>
      have hg : ∀ u : Bool, (bOr u g && !(!g)) = g := by intro u; cases u <;> cases g <;> rfl
      have hl : ∀ u : Bool, (bOr u (!g) && !g) = !g := by intro u; cases u <;> cases g <;> rfl
      simp only [comparator.go]
      rw [hg, hl]
      exact ih _ _

/-- one step of the scan from the undecided state: equal bits leave it undecided, different bits decide it;
at the sign position (`flip`) a set bit makes the number smaller -/
theorem cmp_cons (sx sy : Bool) (i : Nat) (a b : Bool) (xs ys : List Bool) :
    comparator.go sx sy i (a :: xs) (b :: ys) false false =
      if a = b then comparator.go sx sy (i + 1) xs ys false false
      else (!(a ^^ (i == 0 && (sx || sy))), a ^^ (i == 0 && (sx || sy))) := by
  simp only [comparator.go]
  generalize (i == 0 && (sx || sy)) = flip
  cases a <;> cases b <;> cases flip <;> simp [bOr]
  -- the cases with `a ≠ b` leave a scan from a decided state `(g, !g)`
  all_goals exact cmp_decided sx sy _ _ _ _

/-- where no sign position lies ahead (`i > 0`, or both operands unsigned) the scan is an unsigned lexicographic
comparison -/
theorem cmp_unsigned (sx sy : Bool) (i : Nat) (hi : (i == 0 && (sx || sy)) = false)
    (xs ys : List Bool) (h : xs.length = ys.length) :
    comparator.go sx sy i xs ys false false =
      (decide (toNat xs < toNat ys), decide (toNat ys < toNat xs)) := by
  induction xs, ys, h using ind₂ generalizing i with
  | nil => simp [comparator.go, toNat_nil]
  | cons a b xs ys h ih =>
    have hx := toNat_lt xs
    have hy := toNat_lt ys
    rw [cmp_cons, hi, toNat_cons, toNat_cons, ← h, ih (i + 1) (by simp)]
    rw [← h] at hy
    generalize 2 ^ xs.length = P at *
    cases a <;> cases b <;> simp <;> omega

theorem comparator_unsigned (x y : List Bool) (h : x.length = y.length) :
    comparator x false y false = (decide (toNat x < toNat y), decide (toNat y < toNat x)) :=
  cmp_unsigned false false 0 (by simp) x y h

theorem comparator_signed (a b : Bool) (x y : List Bool) (h : x.length = y.length) :
    comparator (a :: x) true (b :: y) true =
      (decide (toInt (a :: x) < toInt (b :: y)), decide (toInt (b :: y) < toInt (a :: x))) := by
  have hx := toNat_lt x
  have hy := toNat_lt y
  rw [← h] at hy
  rw [comparator, cmp_cons, cmp_unsigned true true 1 (by simp) x y h, toInt_cons, toInt_cons, ← h, ← two_pow_cast]
  generalize 2 ^ x.length = P at *
  cases a <;> cases b <;> simp <;> omega

theorem eqBits_iff (x y : List Bool) (h : x.length = y.length) : eqBits x y = true ↔ x = y := by
  suffices ∀ (acc : Bool), (x.zip y).foldl (fun acc (p : Bool × Bool) => acc && ((p.1 ^^ p.2) ^^ true)) acc = true ↔
      (acc = true ∧ x = y) from by simpa [eqBits] using this true
  induction x, y, h using ind₂ with
  | nil => intro acc; simp
  | cons a b x y h ih =>
    intro acc
    simp only [List.zip_cons_cons, List.foldl_cons, ih, List.cons.injEq]
    cases a <;> cases b <;> cases acc <;> simp

theorem toNat_append (a b : List Bool) : toNat (a ++ b) = toNat a * 2 ^ b.length + toNat b := by
  simp only [toNat, List.reverse_append, toNatLE_append, List.length_reverse]
  rw [Nat.mul_comm]; omega

theorem toNat_replicate_false (m : Nat) : toNat (List.replicate m false) = 0 := by
  induction m with
  | zero => rfl
  | succ m ih => rw [List.replicate_succ, toNat_cons, ih]; simp

theorem toNat_replicate_true (m : Nat) : toNat (List.replicate m true) + 1 = 2 ^ m := by
  induction m with
  | zero => rfl
  | succ m ih =>
    rw [List.replicate_succ, toNat_cons, List.length_replicate, Nat.pow_succ]
    simp; omega

theorem toNat_take_drop (l : List Bool) (s : Nat) :
    toNat l = toNat (l.take s) * 2 ^ (l.length - s) + toNat (l.drop s) := by
  have := toNat_append (l.take s) (l.drop s)
  rwa [List.take_append_drop, List.length_drop] at this

theorem toNat_drop (v : List Bool) (k : Nat) (hk : k ≤ v.length) :
    toNat (v.drop (v.length - k)) = toNat v % 2 ^ k := by
  have hlt := toNat_lt (v.drop (v.length - k))
  have hs := toNat_take_drop v (v.length - k)
  have e : v.length - (v.length - k) = k := Nat.sub_sub_self hk
  rw [List.length_drop, e] at hlt
  rw [e] at hs
  rw [hs, Nat.mul_add_mod_of_lt hlt]

/-- cutting a numeral to its last bits: the OR of the leading `s` bits says whether the value still fits -/
theorem toNat_drop_flag (l : List Bool) (s : Nat) :
    ((l.take s).foldl bOr false = true ↔ 2 ^ (l.length - s) ≤ toNat l) ∧
    ((l.take s).foldl bOr false = false → toNat (l.drop s) = toNat l) := by
  have hs := toNat_take_drop l s
  have hlt := toNat_lt (l.drop s)
  rw [List.length_drop] at hlt
  rw [foldl_bOr_toNat, hs]
  refine ⟨hi_pos_iff hlt, fun hf => ?_⟩
  rcases Nat.eq_zero_or_pos (toNat (l.take s)) with h0 | hp
  · rw [h0, Nat.zero_mul, Nat.zero_add]
  · rw [(foldl_bOr_toNat _).2 hp] at hf
    cases hf

theorem toInt_sext_append (a : Bool) (rest : List Bool) (m : Nat) :
    toInt (List.replicate m a ++ a :: rest) = toInt (a :: rest) := by
  rw [List.append_cons, ← List.replicate_succ', List.replicate_succ, List.cons_append]
  induction m with
  | zero => rfl
  | succ m ih => rw [List.replicate_succ, List.cons_append, toInt_sext, ih]

theorem cast_eq (v : List Bool) (s : Bool) (k : Nat) (hv : v ≠ []) :
    cast v s k = if k ≤ v.length then v.drop (v.length - k)
      else List.replicate (k - v.length) (if s then v.headD false else false) ++ v := by
  have hne : v.isEmpty = false := by cases v <;> simp_all
  rcases Nat.lt_trichotomy k v.length with h | h | h
  · simp [cast, Nat.ne_of_lt h, h, Nat.le_of_lt h]
  · simp [cast, h]
  · simp [cast, extendToBits, hne, Nat.ne_of_gt h, Nat.ne_of_lt h, Nat.not_lt_of_gt h, Nat.not_le_of_gt h]

theorem cast_length (v : List Bool) (s : Bool) (k : Nat) (hv : v ≠ []) : (cast v s k).length = k := by
  rw [cast_eq v s k hv]
  split
  · rw [List.length_drop, Nat.sub_sub_self ‹_›]
  · rw [List.length_append, List.length_replicate, Nat.sub_add_cancel (Nat.le_of_not_le ‹_›)]

/-- **every cast, all widths**: the result (of width `k`, `cast_length`) is the source value, read with the
source's signedness, modulo `2^k` — truncation when narrowing, zero- or sign-extension when widening, exactly like
Rust's `as`; there is no panic condition at all. -/
theorem cast_val (v : List Bool) (s : Bool) (k : Nat) (hv : v ≠ []) :
    (toNat (cast v s k) : Int) = valOf s v % (2 : Int) ^ k := by
  obtain ⟨a, rest, rfl⟩ := List.exists_cons_of_ne_nil hv
  have hl := cast_length (a :: rest) s k (by simp)
  rw [cast_eq _ s k (by simp)] at hl ⊢
  by_cases hk : k ≤ (a :: rest).length
  · -- the last `k` bits are `toNat v % 2^k`; `valOf s v ≡ toNat v` modulo `2^len` (`valOf_emod`), and `2^k` divides
    -- `2^len`
    have hdvd : ((2 ^ k : Nat) : Int) ∣ ((2 ^ (a :: rest).length : Nat) : Int) :=
      Int.natCast_dvd_natCast.2 (Nat.pow_dvd_pow 2 hk)
    rw [two_pow_cast, two_pow_cast] at hdvd
    rw [if_pos hk, toNat_drop _ _ hk, Int.natCast_emod, two_pow_cast, ← valOf_emod s, Int.emod_emod_of_dvd _ hdvd]
  · rw [if_neg hk, List.headD_cons] at hl ⊢
    -- the extension has the same value, and `k` bits
    have hv : valOf s (List.replicate (k - (a :: rest).length) (if s then a else false) ++ a :: rest) =
        valOf s (a :: rest) := by
      cases s
      · simp [valOf, toNat_append, toNat_replicate_false]
      · exact toInt_sext_append a rest _
    have he := valOf_emod s (List.replicate (k - (a :: rest).length) (if s then a else false) ++ a :: rest)
    rw [hv, hl] at he
    exact he.symm

theorem cast_spec (a : Bool) (rest : List Bool) (s : Bool) (k : Nat) :
    ∃ q : Int, valOf s (a :: rest) = (toNat (cast (a :: rest) s k) : Int) + q * (2 : Int) ^ k :=
  ⟨valOf s (a :: rest) / (2 : Int) ^ k, by rw [cast_val _ s k (List.cons_ne_nil a rest), Int.emod_add_ediv_mul]⟩

end Arith
end GV
