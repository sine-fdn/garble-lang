import GarbleVerif.Proofs.BristolImport
import GarbleVerif.Proofs.BristolDealias
/-!
# Bristol export followed by import: the same gates, the same function
-/
namespace GV
namespace Bristol
open Circuit

/-- the importer reads the exported gates `rest`, written after `pre`, back one by one -/
theorem importGates_linesOf {TI TW : Nat} {outs : List Nat} {f : Nat → Nat} (hf : WmOK TI TW outs f)
    (rest : List Gate) {pre : List Gate} {st : ImportSt} (hinv : Inv TW TI outs f pre st)
    (hv : validateGates rest (pre.length + TI) = .ok ()) (hl : pre.length + rest.length + TI ≤ TW) :
    ∃ st', importGates TW TI outs.length (linesOf f TI rest pre.length) st = .ok st' ∧
      Inv TW TI outs f (pre ++ rest) st' := by
  induction rest generalizing pre st with
  | nil => exact ⟨st, rfl, by rwa [List.append_nil]⟩
  | cons g rest ih =>
    obtain ⟨hg, hv⟩ := (validateGates_cons ..).mp hv
    rw [List.length_cons] at hl
    have hlt : pre.length + TI < TW := by omega
    have hstep := importGate_lineOf hinv.toStInv (hf.lt hlt) hg
      (fun x hx => hf.lt (Nat.lt_trans hx hlt)) (read_operand hf hinv hlt)
    obtain ⟨st', hst, hinv'⟩ := ih (inv_next hf hinv hlt g)
      (by rwa [List.length_append, List.length_singleton, Nat.add_right_comm])
      (by rwa [List.length_append, List.length_singleton, Nat.add_assoc pre.length, Nat.add_comm 1])
    rw [List.length_append, List.length_singleton] at hst
    rw [List.append_assoc] at hinv'
    exact ⟨st', by simp only [linesOf, importGates, hstep, hst], hinv'⟩

theorem parseLine_nums (ns : List Nat) : parseLine (some (ns.map .num)) = .ok ns := by
  simp only [parseLine]
  induction ns with
  | nil => rfl
  | cons n ns ih => simp [List.mapM_cons, ih, bind, Except.bind, pure, Except.pure]

theorem checkedSum_cons (ns : List Nat) (a : Nat) (h : a + ns.sum < USIZE_LIMIT) :
    checkedSum (a :: ns) = some (a + ns.sum) := by
  induction ns generalizing a with
  | nil => simp_all [checkedSum]
  | cons n ns ih =>
    rw [List.sum_cons, ← Nat.add_assoc] at h ⊢
    rw [← ih (a + n) h]
    have : a < USIZE_LIMIT ∧ a + n < USIZE_LIMIT := by omega
    simp [checkedSum, this]

theorem checkedSum_eq (ns : List Nat) (h : ns.sum < USIZE_LIMIT) : checkedSum ns = some ns.sum := by
  cases ns with
  | nil => rfl
  | cons a ns => exact checkedSum_cons ns a (by simpa using h)

theorem parseHeader_exported (TG : Nat) {TW nOut : Nat} {ig : List Nat} {rest : List Line}
    (hig : ig ≠ []) (hsum : ig.sum ≤ TW) (hn : nOut ≤ TW) (hrest : TW - ig.sum ≤ rest.length)
    (hmax : TW ≤ MAX_GATES) :
    parseHeader ([.num TG, .num TW] :: (.num ig.length :: ig.map .num) :: [.num 1, .num nOut] :: rest)
      = .ok (TW, ig, ig.sum, nOut) := by
  have hlim : MAX_GATES < USIZE_LIMIT := by decide
  have hlen : ¬ ig.length + 1 < 2 := Nat.not_lt.mpr (Nat.succ_le_succ (List.length_pos_iff.mpr hig))
  have c1 := checkedSum_eq ig (Nat.lt_of_le_of_lt (Nat.le_trans hsum hmax) hlim)
  have c2 : checkedSum [nOut] = some nOut := checkedSum_cons [] nOut (Nat.lt_of_le_of_lt (Nat.le_trans hn hmax) hlim)
  have hfin : (decide (ig.sum > TW) || decide (TW - ig.sum > rest.length) || decide (nOut > TW)
      || decide (TW > MAX_GATES)) = false := by
    simp only [Bool.or_eq_false_iff, decide_eq_false_iff_not]
    exact ⟨⟨⟨Nat.not_lt.mpr hsum, Nat.not_lt.mpr hrest⟩, Nat.not_lt.mpr hn⟩, Nat.not_lt.mpr hmax⟩
  have l0 : parseLine (some [.num TG, .num TW]) = .ok [TG, TW] := parseLine_nums [TG, TW]
  have l1 : parseLine (some (.num ig.length :: ig.map .num)) = .ok (ig.length :: ig) := parseLine_nums (ig.length :: ig)
  have l2 : parseLine (some [.num 1, .num nOut]) = .ok [1, nOut] := parseLine_nums [1, nOut]
  simp only [parseHeader, List.getElem?_cons_zero, List.getElem?_cons_succ, l0, l1, l2,
    List.length_cons, List.drop_succ_cons, List.drop_zero, List.getD_cons_zero, List.length_nil,
    if_neg hlen, bne_self_eq_false, Bool.false_eq_true, if_false, c1, c2, hfin, show ¬ (0 + 1 + 1 < 2) by decide]

theorem linesOf_length (f : Nat → Nat) (TI : Nat) (gs : List Gate) (i : Nat) :
    (linesOf f TI gs i).length = gs.length := by
  induction gs generalizing i with
  | nil => rfl
  | cons g gs ih => simp [linesOf, ih]

/-- a file with a consistent header whose gate lines are `linesOf f` for a renumbering `f` that is
injective, fixes the inputs and puts the outputs last in order is imported as the gates it was written from -/
theorem import_exported {ig : List Nat} {gates : List Gate} {outs : List Nat} {f : Nat → Nat}
    (hf : WmOK ig.sum (gates.length + ig.sum) outs f) (hv : validateGates gates ig.sum = .ok ()) (hig : ig ≠ [])
    (hmax : gates.length + ig.sum ≤ MAX_GATES) (hout : ∀ o ∈ outs, ig.sum ≤ o ∧ o < gates.length + ig.sum)
    (TG : Nat) :
    importLines ([[.num TG, .num (gates.length + ig.sum)], .num ig.length :: ig.map .num,
      [.num 1, .num outs.length], []] ++ linesOf f ig.sum gates 0) = .ok ⟨ig, gates, outs⟩ := by
  have hinit : Inv (gates.length + ig.sum) ig.sum outs f []
      ⟨List.replicate (gates.length + ig.sum - ig.sum) 0, ig.sum, [], List.replicate outs.length 0⟩ :=
    { wmLen := List.length_replicate, outLen := List.length_replicate, next := (Nat.zero_add _).symm, gatesEq := rfl
      wmAt := fun w h1 h2 => absurd h2 (by simpa using h1)
      outAt := fun o ho h => absurd h (by simpa using (hout o ho).1) }
  obtain ⟨st, hst, hinv⟩ := importGates_linesOf hf gates hinit (by simpa using hv) (by simp)
  rw [List.length_nil] at hst
  rw [List.nil_append] at hinv
  have ho : st.outputGates = outs := by
    refine List.ext_getElem hinv.outLen fun k _ hk => ?_
    have := hinv.outAt _ (List.getElem_mem hk) (by simpa using (hout _ (List.getElem_mem hk)).2)
    rw [hf.outs_at k hk, Nat.add_sub_cancel_left] at this
    exact (List.getElem_eq_iff _).mpr this
  show importLines (_ :: _ :: _ :: [] :: linesOf f ig.sum gates 0) = _
  unfold importLines
  rw [parseHeader_exported TG hig (Nat.le_add_left ..) (Nat.le_trans hf.outs_le (Nat.sub_le ..))
    (by rw [List.length_cons, linesOf_length, Nat.add_sub_cancel]; exact Nat.le_succ _) hmax]
  simp only [List.drop_succ_cons, List.drop_zero, importGates, importGate, List.isEmpty_nil, if_true]
  rw [hst]
  show Except.ok (Circuit.mk ig st.gates st.outputGates) = _
  rw [hinv.gatesEq, ho]

/-- **shape of the exported file**: header with the right counts, then one line per gate of `c.gates ++ extra` in that
order, `extra` the copies made for repeated outputs; gate `j` assigns wire `f (j + inputs)`, and `f` is injective, fixes the
inputs and sends the `k`-th of the (distinct) outputs `outs` to the `k`-th of the last wires -/
theorem export_spec (c : Circuit) (hv : c.validate = .ok ()) (h161 : 161 ≤ c.outputGates.length)
    (hin : ∀ o ∈ c.outputGates.drop 161, c.totalInputs ≤ o) {outs : List Nat} {extra : List Gate}
    (hd : dealias (c.outputGates.drop 161) [] (c.gates.length + c.totalInputs) [] = (outs, extra)) :
    DealiasOK (c.outputGates.drop 161) [] (c.gates.length + c.totalInputs) outs extra ∧
      WmOK c.totalInputs ((c.gates ++ extra).length + c.totalInputs) outs
        (wmVal c.totalInputs ((c.gates ++ extra).length + c.totalInputs) outs) ∧
      (∀ o ∈ outs, c.totalInputs ≤ o ∧ o < (c.gates ++ extra).length + c.totalInputs) ∧
      validateGates (c.gates ++ extra) c.totalInputs = .ok () ∧
      exportLines c = .ok ([[.num (c.gates ++ extra).length, .num ((c.gates ++ extra).length + c.totalInputs)],
        .num c.inputGates.length :: c.inputGates.map .num, [.num 1, .num outs.length], []] ++
        linesOf (wmVal c.totalInputs ((c.gates ++ extra).length + c.totalInputs) outs) c.totalInputs
          (c.gates ++ extra) 0) := by
  obtain ⟨-, hvg, -, hvo, -⟩ := validate_ok hv
  obtain ⟨added, hadd, hok⟩ := dealias_spec (c.outputGates.drop 161) [] (c.gates.length + c.totalInputs) []
    fun o ho => by
      have := hvo o (List.mem_of_mem_drop ho)
      rwa [wiresLen, Nat.add_comm] at this
  simp only [hd, List.nil_append] at hadd hok
  subst hadd
  have hrange : ∀ o ∈ outs, c.totalInputs ≤ o ∧ o < (c.gates ++ extra).length + c.totalInputs := by
    intro o ho
    rw [List.length_append, Nat.add_right_comm]
    refine ⟨?_, hok.lt o ho⟩
    rcases hok.mem o ho with ⟨h1, _⟩ | h2
    · exact hin o h1
    · exact Nat.le_of_lt (Nat.lt_of_le_of_lt (Nat.le_add_left ..) h2)
  have hvall : validateGates (c.gates ++ extra) c.totalInputs = .ok () :=
    validateGates_append hvg (by rw [Nat.add_comm]; exact hok.valid)
  refine ⟨hok, wmVal_ok _ _ outs (Nat.le_add_left ..) hok.nodup hrange, hrange, hvall, ?_⟩
  have hany : (c.outputGates.drop 161).any (· < c.totalInputs) = false :=
    List.any_eq_false.mpr fun o ho => by simpa using hin o ho
  simp only [exportLines, if_neg (Nat.not_lt.mpr h161), hany, Bool.false_eq_true, if_false, hd, wiresMap_eq]
  rw [lines_eq (range_map_getElem? _ _) _ 0 (by rwa [Nat.zero_add]) (by simp)]

/-- the circuit with the copies appended and the de-aliased outputs computes the outputs of `c` from the
`n`-th on -/
theorem eval?_dealiased {c : Circuit} (hv : c.validate = .ok ()) {n : Nat} {seen outs : List Nat} {extra : List Gate}
    (hok : DealiasOK (c.outputGates.drop n) seen (c.gates.length + c.totalInputs) outs extra)
    {ins : List (List Bool)} (hs : shapeOk c.inputGates ins = true) :
    (Circuit.mk c.inputGates (c.gates ++ extra) outs).eval? ins = (c.eval? ins).map (List.drop n) := by
  obtain ⟨ws, out, hws, hwl, hout, -, hev⟩ := eval?_of_validate hv hs
  obtain ⟨ext, hext, -, hmap⟩ := hok.sem ws (by rw [hwl, wiresLen, Nat.add_comm])
  have hs' : (!shapeOk c.inputGates ins) = false := by rw [hs]; rfl
  rw [hev, eval?, hs']
  simp only [Bool.false_eq_true, if_false, evalGates_append, hws, Option.bind_some, hext, Option.map_some]
  -- `hmap` compares the two output lists under `map`; `l.mapM f = (l.map f).mapM id` moves the goal there and back
  show outs.mapM (id ∘ _) = _
  rw [← List.mapM_map, hmap, List.mapM_map]
  exact mapM_drop n hout

end Bristol
end GV
