import GarbleVerif.Proofs.BitWidth
/-!
# Whether the compiler model covers a program does not depend on the inputs

`Bit.bitExpr` / `bitStmts` / … return `none` for a program outside the model (an ill-typed one in particular). This file
shows that this verdict, and the type of the result, depend only on the *types* of the variables in scope, never on the
wires they carry: if the model is defined from one environment, it is defined — with the same result type and the same
variables afterwards — from every environment of the same shape. `Bit.fnTyped` (the model run on all-zero wires) is
therefore a typing judgement.
-/
namespace GV
namespace Bit
open Src Arith

/-- the same variables of the same types, all with as many wires as their types have bits -/
def SameSh (b1 b2 : BEnv) : Prop := shape b1 = shape b2 ∧ WFB b1 ∧ WFB b2

theorem SameSh.refl {b : BEnv} (h : WFB b) : SameSh b b := ⟨rfl, h, h⟩

/-- what is assumed of calls: whether a call is inside the model, and its result type, depend on the argument types only -/
def CallStatic (call : Ctx) : Prop :=
  ∀ fn a1 a2 t bs p, call.fn fn a1 = some (t, bs, p) → a1.map (·.1) = a2.map (·.1) → ArgsWF a1 → ArgsWF a2 →
    ∃ bs2 p2, call.fn fn a2 = some (t, bs2, p2)

theorem SameSh.get {b1 b2 : BEnv} (hs : SameSh b1 b2) {x : String} {t : VTy} {bs : List Bool}
    (hg : b1.get? x = some (t, bs)) : ∃ bs2, b2.get? x = some (t, bs2) :=
  get?_of_shape' hs.1.symm hg

theorem SameSh.mux {a1 b1 a2 b2 : BEnv} (c1 c2 : Bool) (ha : SameSh a1 a2) (hb : SameSh b1 b2) (h1 : shape a1 = shape b1) :
    SameSh (muxEnv c1 a1 b1) (muxEnv c2 a2 b2) := by
  have h2 : shape a2 = shape b2 := by rw [← ha.1, h1, hb.1]
  exact ⟨by rw [shape_muxEnv _ _ _ h1, shape_muxEnv _ _ _ h2, ha.1], WFB.mux _ _ _ h1 ha.2.1 hb.2.1, WFB.mux _ _ _ h2 ha.2.2 hb.2.2⟩

theorem SameSh.cons {b1 b2 : BEnv} (hs : SameSh b1 b2) (x : String) (t : VTy) {w1 w2 : List Bool}
    (h1 : w1.length = t.toTy.size) (h2 : w2.length = t.toTy.size) : SameSh ((x, t, w1) :: b1) ((x, t, w2) :: b2) :=
  ⟨by rw [shape_cons, shape_cons, hs.1], WFB.cons h1 hs.2.1, WFB.cons h2 hs.2.2⟩

theorem SameSh.append {a1 a2 b1 b2 : BEnv} (ha : SameSh a1 a2) (hb : SameSh b1 b2) : SameSh (a1 ++ b1) (a2 ++ b2) :=
  ⟨by rw [shape_append, shape_append, ha.1, hb.1], ha.2.1.append hb.2.1, ha.2.2.append hb.2.2⟩

theorem SameSh.drop {b1 b2 : BEnv} (hs : SameSh b1 b2) (n : Nat) : SameSh (b1.drop n) (b2.drop n) :=
  ⟨by rw [shape_drop, shape_drop, hs.1], hs.2.1.drop n, hs.2.2.drop n⟩

theorem SameSh.length {b1 b2 : BEnv} (hs : SameSh b1 b2) : b1.length = b2.length := by
  rw [← shape_length, ← shape_length, hs.1]

theorem SameSh.restore {o1 o2 i1 i2 : BEnv} (ho : SameSh o1 o2) (hi : SameSh i1 i2) : SameSh (restoreB o1 i1) (restoreB o2 i2) := by
  unfold restoreB
  rw [ho.length, hi.length]
  exact hi.drop _

theorem SameSh.set {b1 b2 : BEnv} (hs : SameSh b1 b2) (x : String) (t : VTy) {o1 o2 w1 w2 : List Bool}
    (g1 : b1.get? x = some (t, o1)) (g2 : b2.get? x = some (t, o2))
    (h1 : w1.length = t.toTy.size) (h2 : w2.length = t.toTy.size) : SameSh (b1.set x w1) (b2.set x w2) :=
  ⟨by rw [shape_set, shape_set, hs.1], hs.2.1.set x t o1 w1 g1 h1, hs.2.2.set x t o2 w2 g2 h2⟩

theorem binBits_static {op : Src.BinOp} {t : STy} {x y : List Bool} {tr : STy} {r : List Bool}
    {ps : List (Bool × Arith.PanicKind)} (h : binBits op t x y = some (tr, r, ps)) (x2 y2 : List Bool) :
    ∃ r2 ps2, binBits op t x2 y2 = some (tr, r2, ps2) := by
  cases op <;> cases t <;> cases h <;> exact ⟨_, _, rfl⟩

/-- a literal or range pattern on a scalar: whether it applies is a matter of the literal and the type — and of the number
of wires, a Boolean being one -/
theorem patG_scalar_static {pat : Pat} (hp : (∃ b, pat = .bool b) ∨ (∃ n, pat = .int n) ∨ (∃ lo hi, pat = .range lo hi))
    {ty : Ty} {bs1 bs2 : List Bool} {m1 : Bool} {bb1 : BEnv} (hl : bs1.length = bs2.length)
    (h : patG pat ty bs1 = some (m1, bb1)) : (patG pat ty bs2).map (fun r => shape r.2) = some (shape bb1) := by
  obtain ⟨st, bind, hty, hb, rfl⟩ := patG_scalar hp h
  cases ofTy_some hty
  unfold patBits at hb
  split at hb
  · rcases hp with ⟨_, hp⟩ | ⟨_, hp⟩ | ⟨_, _, hp⟩ <;> cases hp
  · obtain ⟨c, rfl⟩ := List.length_eq_one_iff.mp hl.symm
    simp only [STy.toTy, patG, patBits, Option.map_some]
  · obtain ⟨c, rfl⟩ := List.length_eq_one_iff.mp hl.symm
    simp only [STy.toTy, patG, patBits, Option.map_some]
  · split at hb
    case isTrue hr => simp only [STy.toTy, patG, patBits, hr, if_true, Option.map_some]
    case isFalse => contradiction
  · split at hb
    case isTrue hr => simp only [STy.toTy, patG, patBits, hr, and_self, if_true, Option.map_some]
    case isFalse => contradiction
  · contradiction

mutual
/-- whether a pattern applies to a type, and what it binds, does not depend on the wires -/
theorem patG_static : ∀ (p : Pat) (t : Ty) (bs1 bs2 : List Bool) (m1 : Bool) (bb1 : BEnv), bs1.length = bs2.length →
    patG p t bs1 = some (m1, bb1) → (patG p t bs2).map (fun r => shape r.2) = some (shape bb1)
  | .ident x => fun t bs1 bs2 m1 bb1 _ h => by
    cases patG_ident.symm.trans h
    rfl
  | .bool b => fun t bs1 bs2 m1 bb1 hl h => patG_scalar_static (.inl ⟨b, rfl⟩) hl h
  | .int n => fun t bs1 bs2 m1 bb1 hl h => patG_scalar_static (.inr (.inl ⟨n, rfl⟩)) hl h
  | .range lo hi => fun t bs1 bs2 m1 bb1 hl h => patG_scalar_static (.inr (.inr ⟨lo, hi, rfl⟩)) hl h
  | .tuple ps => fun t bs1 bs2 m1 bb1 hl h => by
    obtain ⟨ts, rfl, h⟩ := patG_tuple h
    simp only [patG]
    exact patsG_static ps ts bs1 bs2 m1 bb1 hl h
  | .struct _ fps => fun t bs1 bs2 m1 bb1 hl h => by
    obtain ⟨_, fs, rfl, h⟩ := patG_struct h
    simp only [patG]
    exact fieldsG_static fps fs bs1 bs2 m1 bb1 hl h
  | .enumUnit _ v => fun t bs1 bs2 m1 bb1 _ h => by
    obtain ⟨_, variants, i, u, fts, rfl, hf, _, rfl⟩ := patG_enumUnit h
    simp only [patG, hf, Option.map_some]
  | .enumTuple _ v ps => fun t bs1 bs2 m1 bb1 hl h => by
    obtain ⟨_, variants, i, u, fts, m2, rfl, hf, hp, _⟩ := patG_enumTuple h
    obtain ⟨⟨m2', bb2⟩, h2, s2⟩ := Option.map_eq_some_iff.mp
      (patsG_static ps fts _ (bs2.drop variants.tagSize) m2 bb1 (by simp only [List.length_drop, hl]) hp)
    simp only [patG, hf, h2, Option.map_some, s2]
theorem patsG_static : ∀ (ps : PatList) (ts : TyList) (bs1 bs2 : List Bool) (m1 : Bool) (bb1 : BEnv), bs1.length = bs2.length →
    patsG ps ts bs1 = some (m1, bb1) → (patsG ps ts bs2).map (fun r => shape r.2) = some (shape bb1)
  | .nil => fun ts _ _ m1 bb1 _ h => by
    obtain ⟨rfl, _, rfl⟩ := patsG_nil h
    rfl
  | .cons p ps => fun ts bs1 bs2 m1 bb1 hl h => by
    obtain ⟨t, ts, ma, ba, mb, bb, rfl, h1, h2, _, rfl⟩ := patsG_cons h
    obtain ⟨⟨ma', ba'⟩, e1, s1⟩ := Option.map_eq_some_iff.mp
      (patG_static p t _ (bs2.take t.size) ma ba (by simp only [List.length_take, hl]) h1)
    obtain ⟨⟨mb', bb'⟩, e2, s2⟩ := Option.map_eq_some_iff.mp
      (patsG_static ps ts _ (bs2.drop t.size) mb bb (by simp only [List.length_drop, hl]) h2)
    simp only [patsG, e1, e2, Option.map_some, shape_append, s1, s2]
theorem fieldsG_static : ∀ (fps : FieldPats) (fs : Fields) (bs1 bs2 : List Bool) (m1 : Bool) (bb1 : BEnv), bs1.length = bs2.length →
    fieldsG fps fs bs1 = some (m1, bb1) → (fieldsG fps fs bs2).map (fun r => shape r.2) = some (shape bb1)
  | .nil => fun _ _ _ m1 bb1 _ h => by
    cases fieldsG_nil.symm.trans h
    rfl
  | .cons n p r => fun fs bs1 bs2 m1 bb1 hl h => by
    obtain ⟨off, ti, ma, ba, mb, bb, hn, h1, h2, _, rfl⟩ := fieldsG_cons h
    obtain ⟨⟨ma', ba'⟩, e1, s1⟩ := Option.map_eq_some_iff.mp
      (patG_static p ti _ ((bs2.drop off).take ti.size) ma ba (by simp only [List.length_take, List.length_drop, hl]) h1)
    obtain ⟨⟨mb', bb'⟩, e2, s2⟩ := Option.map_eq_some_iff.mp (fieldsG_static r fs bs1 bs2 mb bb hl h2)
    simp only [fieldsG, hn, e1, e2, Option.map_some, shape_append, s1, s2]
end

theorem patG_run {p : Pat} {t : Ty} {bs1 bs2 : List Bool} {m1 : Bool} {bb1 : BEnv} (h1 : bs1.length = t.size)
    (h2 : bs2.length = t.size) (h : patG p t bs1 = some (m1, bb1)) : ∃ m2 bb2, patG p t bs2 = some (m2, bb2) ∧ SameSh bb1 bb2 := by
  obtain ⟨⟨m2, bb2⟩, hp2, hsh⟩ := Option.map_eq_some_iff.mp (patG_static p t bs1 bs2 m1 bb1 (h1.trans h2.symm) h)
  exact ⟨m2, bb2, hp2, hsh.symm, patG_wf p t bs1 m1 bb1 h1 h, patG_wf p t bs2 m2 bb2 h2 hp2⟩

theorem SameSh.afterF {call : Ctx} (hc : CallWF call) {fs : FieldExprs} {b1 b2 : BEnv} {v1 v2 : List (String × VTy × List Bool)}
    {p1 p2 : P} {e1 e2 : BEnv} (h1 : bitFields call b1 fs = some (v1, p1, e1)) (h2 : bitFields call b2 fs = some (v2, p2, e2))
    (hs : SameSh b1 b2) : SameSh e1 e2 := by
  have w1 := widthF call hc fs _ _ _ _ h1 hs.2.1
  have w2 := widthF call hc fs _ _ _ _ h2 hs.2.2
  exact ⟨by rw [shapeF call fs _ _ _ _ h1, shapeF call fs _ _ _ _ h2, hs.1], w1.2, w2.2⟩

/-! ### the second run

What the induction below does at every subterm: staticness (the induction hypothesis `ih`) says that the second run is
defined with the same type; scope and widths (`shapeE`, `widthE`) then say that the two runs end in environments of the
same shape again, with results as wide as the type. -/

section runs
variable {call : Ctx} {b1 b2 e1 : BEnv} {p1 : P}

theorem SameSh.runE (hs : SameSh b1 b2) (hc : CallWF call) {e : Expr} {t : VTy} {x1 : List Bool}
    (ih : ∀ b1 b2 t bs p b1', bitExpr call b1 e = some (t, bs, p, b1') → SameSh b1 b2 → (bitExpr call b2 e).map (·.1) = some t)
    (h1 : bitExpr call b1 e = some (t, x1, p1, e1)) :
    ∃ x2 p2 e2, bitExpr call b2 e = some (t, x2, p2, e2) ∧ SameSh e1 e2 ∧ x1.length = t.toTy.size ∧ x2.length = t.toTy.size := by
  obtain ⟨⟨t', x2, p2, e2⟩, h2, (rfl : t' = t)⟩ := Option.map_eq_some_iff.mp (ih _ b2 _ _ _ _ h1 hs)
  have w1 := widthE call hc e _ _ _ _ _ h1 hs.2.1
  have w2 := widthE call hc e _ _ _ _ _ h2 hs.2.2
  exact ⟨x2, p2, e2, h2, ⟨by rw [shapeE call e _ _ _ _ _ h1, shapeE call e _ _ _ _ _ h2, hs.1], w1.2, w2.2⟩, w1.1, w2.1⟩

/-- the second run of a Boolean subterm: one wire -/
theorem SameSh.runB (hs : SameSh b1 b2) (hc : CallWF call) {e : Expr} {x1 : List Bool}
    (ih : ∀ b1 b2 t bs p b1', bitExpr call b1 e = some (t, bs, p, b1') → SameSh b1 b2 → (bitExpr call b2 e).map (·.1) = some t)
    (h1 : bitExpr call b1 e = some (.s .bool, x1, p1, e1)) :
    ∃ c p2 e2, bitExpr call b2 e = some (.s .bool, [c], p2, e2) ∧ SameSh e1 e2 := by
  obtain ⟨x2, p2, e2, h2, hs1, _, hx2⟩ := hs.runE hc ih h1
  obtain ⟨c, rfl⟩ := List.length_eq_one_iff.mp hx2
  exact ⟨c, p2, e2, h2, hs1⟩

theorem SameSh.runL (hs : SameSh b1 b2) (hc : CallWF call) {es : ExprList} {v1 : List (VTy × List Bool)}
    (ih : ∀ b1 b2 vs p b1', bitList call b1 es = some (vs, p, b1') → SameSh b1 b2 →
      (bitList call b2 es).map (fun r => r.1.map (·.1)) = some (vs.map (·.1)))
    (h1 : bitList call b1 es = some (v1, p1, e1)) :
    ∃ v2 p2 e2, bitList call b2 es = some (v2, p2, e2) ∧ v2.map (·.1) = v1.map (·.1) ∧ SameSh e1 e2 ∧ ArgsWF v1 ∧ ArgsWF v2 := by
  obtain ⟨⟨v2, p2, e2⟩, h2, hty⟩ := Option.map_eq_some_iff.mp (ih _ b2 _ _ _ h1 hs)
  have w1 := widthL call hc es _ _ _ _ h1 hs.2.1
  have w2 := widthL call hc es _ _ _ _ h2 hs.2.2
  exact ⟨v2, p2, e2, h2, hty, ⟨by rw [shapeL call es _ _ _ _ h1, shapeL call es _ _ _ _ h2, hs.1], w1.2, w2.2⟩, w1.1, w2.1⟩

theorem SameSh.runF (hs : SameSh b1 b2) (hc : CallWF call) {fs : FieldExprs} {v1 : List (String × VTy × List Bool)}
    (ih : ∀ b1 b2 vs p b1', bitFields call b1 fs = some (vs, p, b1') → SameSh b1 b2 →
      (bitFields call b2 fs).map (fun r => r.1.map (fun x => (x.1, x.2.1))) = some (vs.map (fun x => (x.1, x.2.1))))
    (h1 : bitFields call b1 fs = some (v1, p1, e1)) :
    ∃ v2 p2 e2, bitFields call b2 fs = some (v2, p2, e2) ∧ v2.map (fun x => (x.1, x.2.1)) = v1.map (fun x => (x.1, x.2.1)) ∧
      SameSh e1 e2 := by
  obtain ⟨⟨v2, p2, e2⟩, h2, hty⟩ := Option.map_eq_some_iff.mp (ih _ b2 _ _ _ h1 hs)
  exact ⟨v2, p2, e2, h2, hty, hs.afterF hc h1 h2⟩

/-- the second run of a statement or a statement list `f`: here staticness gives the shape at the end as well, `hw` (`widthS`,
`widthSS`) the widths -/
theorem SameSh.runS (hs : SameSh b1 b2) {f : BEnv → Option (VTy × List Bool × P × BEnv)} {t : VTy} {x1 : List Bool}
    (hw : ∀ b t x p b', f b = some (t, x, p, b') → WFB b → x.length = t.toTy.size ∧ WFB b')
    (ih : ∀ b1 b2 t bs p b1', f b1 = some (t, bs, p, b1') → SameSh b1 b2 →
      (f b2).map (fun r => (r.1, shape r.2.2.2)) = some (t, shape b1'))
    (h1 : f b1 = some (t, x1, p1, e1)) : ∃ x2 p2 e2, f b2 = some (t, x2, p2, e2) ∧ SameSh e1 e2 := by
  obtain ⟨⟨t', x2, p2, e2⟩, h2, hr⟩ := Option.map_eq_some_iff.mp (ih _ b2 _ _ _ _ h1 hs)
  obtain ⟨rfl, hsh⟩ := Prod.mk.inj hr
  exact ⟨x2, p2, e2, h2, hsh.symm, (hw _ _ _ _ _ h1 hs.2.1).2, (hw _ _ _ _ _ h2 hs.2.2).2⟩

end runs

/-- two unrolled loops in lockstep, over as many elements of `sz` wires each -/
theorem foldLoop_static {f : List Bool → BEnv → Option (P × BEnv)} {sz : Nat}
    (hf : ∀ el1 el2 env1 env2 pb envb, el1.length = sz → el2.length = sz → SameSh env1 env2 → f el1 env1 = some (pb, envb) →
      ∃ pb2 envb2, f el2 env2 = some (pb2, envb2) ∧ SameSh envb envb2)
    {els1 els2 : List (List Bool)} {p0 q0 : P} {e0 e0' : BEnv} {r1 : P × BEnv} (hlen : els1.length = els2.length)
    (h1 : ∀ a ∈ els1, a.length = sz) (h2 : ∀ a ∈ els2, a.length = sz) (hs : SameSh e0 e0') (h : foldLoop f els1 (p0, e0) = some r1) :
    (foldLoop f els2 (q0, e0')).map (fun r => shape r.2) = some (shape r1.2) := by
  induction els1 generalizing els2 p0 q0 e0 e0' with
  | nil =>
    cases els2 with
    | cons _ _ => cases hlen
    | nil =>
      cases foldLoop_nil.symm.trans h
      exact congrArg some hs.1.symm
  | cons el rest ih =>
    cases els2 with
    | nil => cases hlen
    | cons el2 rest2 =>
      obtain ⟨pb, envb, hstep, hrest⟩ := foldLoop_cons h
      obtain ⟨pb2, envb2, hstep2, hsb⟩ := hf el el2 e0 e0' pb envb (h1 el List.mem_cons_self) (h2 el2 List.mem_cons_self) hs hstep
      simp only [foldLoop, hstep2]
      exact ih (Nat.succ.inj hlen) (fun a ha => h1 a (List.mem_cons_of_mem _ ha))
        (fun a ha => h2 a (List.mem_cons_of_mem _ ha)) (hs.restore hsb) hrest

mutual
theorem staticE (call : Ctx) (hc : CallWF call) (hd : CallStatic call) : (e : Expr) → ∀ (b1 b2 : BEnv) (t : VTy) (bs : List Bool)
    (p : P) (b1' : BEnv), bitExpr call b1 e = some (t, bs, p, b1') → SameSh b1 b2 → (bitExpr call b2 e).map (·.1) = some t
  | .bool b => fun b1 b2 t bs p b1' h _ => by
    cases bitExpr_bool.symm.trans h
    rfl
  | .int n k => fun b1 b2 t bs p b1' h _ => by
    obtain ⟨hr, rfl, _⟩ := bitExpr_int h
    simp only [bitExpr, hr, if_true, Option.map_some]
  | .var x => fun b1 b2 t bs p b1' h hs => by
    obtain ⟨bs2, hg2⟩ := hs.get (bitExpr_var h).1
    simp only [bitExpr, hg2, Option.map_some]
  | .un op ty a => fun b1 b2 t bs p b1' h hs => by
    obtain ⟨c, rfl, rfl, ha, rfl, _⟩ | ⟨k, x, rfl, rfl, ha, rfl, _⟩ | ⟨k, x, p1, rfl, rfl, hsg, ha, rfl, _⟩ := bitExpr_un h
    · obtain ⟨c2, q, e2, ha2, _⟩ := hs.runB hc (staticE call hc hd a) ha
      simp only [bitExpr, ha2, Option.map_some]
    · obtain ⟨x2, q, e2, ha2, _⟩ := hs.runE hc (staticE call hc hd a) ha
      simp only [bitExpr, ha2, if_true, Option.map_some]
    · obtain ⟨x2, q, e2, ha2, _⟩ := hs.runE hc (staticE call hc hd a) ha
      simp only [bitExpr, hsg, ha2, if_true, Option.map_some]
  | .cast src dst a => fun b1 b2 t bs p b1' h hs => by
    obtain ⟨ts, td, x, hsrc, hdst, ha, rfl, _⟩ := bitExpr_cast h
    obtain ⟨x2, q, e2, ha2, _⟩ := hs.runE hc (staticE call hc hd a) ha
    simp only [bitExpr, hsrc, hdst, ha2, if_true, Option.map_some]
  | .ite c e1 e2 => fun b1 b2 t bs p b1' h hs => by
    obtain ⟨cb, pc, env1, tb, pt, envT, fb, pf, envF, hcnd, h1, h2, _⟩ := bitExpr_ite h
    obtain ⟨c2, q, env2, hc2, hs1⟩ := hs.runB hc (staticE call hc hd c) hcnd
    obtain ⟨x2, q1, envT2, h12, _⟩ := hs1.runE hc (staticE call hc hd e1) h1
    obtain ⟨y2, q2, envF2, h22, _⟩ := hs1.runE hc (staticE call hc hd e2) h2
    simp only [bitExpr, hc2, h12, h22, if_true, Option.map_some]
  | .block ss => fun b1 b2 t bs p b1' h hs => by
    obtain ⟨env1, hss, _⟩ := bitExpr_block h
    obtain ⟨x2, q, e2, hss2, _⟩ := hs.runS (widthSS call hc ss) (staticSS call hc hd ss) hss
    simp only [bitExpr, hss2, Option.map_some]
  | .bin op ty a b => fun b1 b2 t bs p b1' h hs => by
    rcases binOp_kinds op with rfl | rfl | h3 | ⟨h1, h2, h3, h4⟩
    · obtain ⟨x, p1, env1, y, p2, env2, ha, hb, rfl, _⟩ := bitExpr_land h
      obtain ⟨x2, q1, e2, ha2, hs1⟩ := hs.runB hc (staticE call hc hd a) ha
      obtain ⟨y2, q2, e3, hb2, _⟩ := hs1.runB hc (staticE call hc hd b) hb
      simp only [bitExpr, ha2, hb2, Option.map_some]
    · obtain ⟨x, p1, env1, y, p2, env2, ha, hb, rfl, _⟩ := bitExpr_lor h
      obtain ⟨x2, q1, e2, ha2, hs1⟩ := hs.runB hc (staticE call hc hd a) ha
      obtain ⟨y2, q2, e3, hb2, _⟩ := hs1.runB hc (staticE call hc hd b) hb
      simp only [bitExpr, ha2, hb2, Option.map_some]
    · obtain ⟨k, x, p1, env1, y, p2, hty, ha, hb, rfl, _⟩ := bitExpr_shift h3 h
      obtain ⟨x2, q1, e2, ha2, hs1, _⟩ := hs.runE hc (staticE call hc hd a) ha
      obtain ⟨y2, q2, e3, hb2, _⟩ := hs1.runE hc (staticE call hc hd b) hb
      rcases h3 with rfl | rfl
      all_goals simp only [bitExpr, hty, ha2, hb2, if_true, Option.map_some]
    -- the second run is the same constructor of `StrictSome` on the second runs of the operands
    · cases bitExpr_strict h1 h2 h3 h4 h with
      | litL hop ha0 hpos hlt hty hb =>
        obtain ⟨y2, q, e2, hb2, _⟩ := hs.runE hc (staticE call hc hd b) hb
        rw [(StrictSome.litL hop ha0 hpos hlt hty hb2).run h1 h2 h3 h4, Option.map_some]
      | litR hop hfa hb0 hpos hlt hty ha =>
        obtain ⟨y2, q, e2, ha2, _⟩ := hs.runE hc (staticE call hc hd a) ha
        rw [(StrictSome.litR hop hfa hb0 hpos hlt hty ha2).run h1 h2 h3 h4, Option.map_some]
      | agg hop hty ha hb =>
        obtain ⟨x2, q1, e2, ha2, hs1, _⟩ := hs.runE hc (staticE call hc hd a) ha
        obtain ⟨y2, q2, e3, hb2, _⟩ := hs1.runE hc (staticE call hc hd b) hb
        rw [(StrictSome.agg hop hty ha2 hb2).run h1 h2 h3 h4, Option.map_some]
      | scalar hlit hty ha hb hbin =>
        obtain ⟨x2, q1, e2, ha2, hs1, _⟩ := hs.runE hc (staticE call hc hd a) ha
        obtain ⟨y2, q2, e3, hb2, _⟩ := hs1.runE hc (staticE call hc hd b) hb
        obtain ⟨r2, ps2, hbin2⟩ := binBits_static hbin x2 y2
        rw [(StrictSome.scalar hlit hty ha2 hb2 hbin2).run h1 h2 h3 h4, Option.map_some]
  | .tuple .nil => fun b1 b2 t bs p b1' h _ => by
    cases bitExpr_unit.symm.trans h
    rfl
  | .tuple (.cons e es) => fun b1 b2 t bs p b1' h hs => by
    obtain ⟨vs, hl, rfl, _⟩ := bitExpr_tuple h
    obtain ⟨vs2, q, e2, hl2, hty, _⟩ := hs.runL hc (staticL call hc hd (.cons e es)) hl
    have : vs2.map (·.1.toTy) = vs.map (·.1.toTy) := by
      simpa only [List.map_map, Function.comp_def] using congrArg (List.map VTy.toTy) hty
    simp only [bitExpr, hl2, Option.map_some, this]
  | .tupleGet a i => fun b1 b2 t bs p b1' h hs => by
    obtain ⟨ts, x, off, ti, ha, hn, rfl, _⟩ := bitExpr_tupleGet h
    obtain ⟨x2, q, e2, ha2, _⟩ := hs.runE hc (staticE call hc hd a) ha
    simp only [bitExpr, ha2, hn, Option.map_some]
  | .array .nil => fun b1 b2 t bs p b1' h _ => by
    obtain ⟨_, _, _, hne, _⟩ := bitExpr_array h
    exact absurd rfl hne
  | .array (.cons e es) => fun b1 b2 t bs p b1' h hs => by
    obtain ⟨te, b, vs, _, hl, hall, rfl, _⟩ := bitExpr_array h
    obtain ⟨vs2, q, e2, hl2, hty, _⟩ := hs.runL hc (staticL call hc hd (.cons e es)) hl
    -- the elements of the second run have the types of those of the first: all the same, and as many
    match vs2, hty with
    | (te2, c) :: vs3, hty2 =>
      simp only [List.map_cons, List.cons.injEq] at hty2
      obtain ⟨rfl, htl⟩ := hty2
      have hall2 : vs3.all (fun x => x.1 = te2) = true := List.all_eq_true.mpr fun x hx => by
        have hm : x.1 ∈ vs.map (·.1) := by rw [← htl]; exact List.mem_map_of_mem hx
        obtain ⟨y, hy, hyx⟩ := List.mem_map.mp hm
        rw [← hyx, hall y hy, decide_eq_true rfl]
      have hlen : vs3.length = vs.length := by simpa only [List.length_map] using congrArg List.length htl
      simp only [bitExpr, hl2, hall2, if_true, Option.map_some, hlen]
  | .repeat_ a n => fun b1 b2 t bs p b1' h hs => by
    obtain ⟨te, x, ha, rfl, _⟩ := bitExpr_repeat h
    obtain ⟨x2, q, e2, ha2, _⟩ := hs.runE hc (staticE call hc hd a) ha
    simp only [bitExpr, ha2, Option.map_some]
  | .index a i => fun b1 b2 t bs p b1' h hs => by
    obtain ⟨te, n, abits, pa, env1, ibits, pi, ha, hi, hn, rfl, _⟩ := bitExpr_index h
    obtain ⟨x2, q1, e2, ha2, hs1, _⟩ := hs.runE hc (staticE call hc hd a) ha
    obtain ⟨y2, q2, e3, hi2, _, hy1, hy2⟩ := hs1.runE hc (staticE call hc hd i) hi
    simp only [bitExpr, ha2, hi2, hy2.trans hy1.symm, hn, if_true, Option.map_some]
  | .range lo hi k => fun b1 b2 t bs p b1' h _ => by
    obtain ⟨hr, rfl, _⟩ := bitExpr_range h
    simp only [bitExpr, hr, if_true, Option.map_some]
  | .struct name fs => fun b1 b2 t bs p b1' h hs => by
    obtain ⟨vs, hf, rfl, _⟩ := bitExpr_struct h
    obtain ⟨vs2, q, e2, hf2, hty, _⟩ := hs.runF hc (staticF call hc hd fs) hf
    have : vs2.map (fun x => (x.1, x.2.1.toTy)) = vs.map fun x => (x.1, x.2.1.toTy) := by
      simpa only [List.map_map, Function.comp_def] using congrArg (List.map fun x : String × VTy => (x.1, x.2.toTy)) hty
    simp only [bitExpr, hf2, Option.map_some, this]
  | .field a fname => fun b1 b2 t bs p b1' h hs => by
    obtain ⟨sn, fs, x, off, ti, ha, hn, rfl, _⟩ := bitExpr_field h
    obtain ⟨x2, q, e2, ha2, _⟩ := hs.runE hc (staticE call hc hd a) ha
    simp only [bitExpr, ha2, hn, Option.map_some]
  | .enumLit ename variant isUnit es => fun b1 b2 t bs p b1' h hs => by
    obtain ⟨variants, i, fts, vs, hdef, hf, hl, hty, rfl, _⟩ := bitExpr_enumLit h
    obtain ⟨vs2, q, e2, hl2, hty2, _⟩ := hs.runL hc (staticL call hc hd es) hl
    simp only [bitExpr, hdef, hf, hl2, hty2, hty, and_self, if_true, Option.map_some]
  | .match_ scrut arms => fun b1 b2 t bs p b1' h hs => by
    obtain ⟨ts, sb, ps, env1, hp, pa, hsc, hcov, ha, _⟩ := bitExpr_match h
    obtain ⟨sb2, q, e2, hsc2, hs1, hl1, hl2⟩ := hs.runE hc (staticE call hc hd scrut) hsc
    obtain ⟨⟨hp2, ret2, pa2, envF2⟩, ha2, hret⟩ := Option.map_eq_some_iff.mp
      (staticArms call hc hd arms env1 e2 ts.toTy sb sb2 (false, none, none, env1) (false, none, none, e2) _ ha hs1 hl1 hl2 rfl hs1 rfl)
    obtain ⟨⟨t', rb⟩, rfl, (rfl : t' = t)⟩ := Option.map_eq_some_iff.mp hret
    simp only [bitExpr, hsc2, hcov, ha2, if_true, Option.map_some]
  | .call fn args => fun b1 b2 t bs p b1' h hs => by
    obtain ⟨vs, pargs, pb, hl, hcall, _⟩ := bitExpr_call h
    obtain ⟨vs2, q, e2, hl2, hty, _, hw1, hw2⟩ := hs.runL hc (staticL call hc hd args) hl
    obtain ⟨bs2, p2, hcall2⟩ := hd fn vs vs2 _ _ _ hcall hty.symm hw1 hw2
    simp only [bitExpr, hl2, hcall2, Option.map_some]
theorem staticL (call : Ctx) (hc : CallWF call) (hd : CallStatic call) : (es : ExprList) → ∀ (b1 b2 : BEnv)
    (vs : List (VTy × List Bool)) (p : P) (b1' : BEnv), bitList call b1 es = some (vs, p, b1') → SameSh b1 b2 →
    (bitList call b2 es).map (fun r => r.1.map (·.1)) = some (vs.map (·.1))
  | .nil => fun b1 b2 vs p b1' h _ => by
    cases bitList_nil.symm.trans h
    rfl
  | .cons e rest => fun b1 b2 vs p b1' h hs => by
    obtain ⟨te, x, p1, env1, vs', p2, he, hr, rfl, _⟩ := bitList_cons h
    obtain ⟨x2, q1, e2, he2, hs1, _⟩ := hs.runE hc (staticE call hc hd e) he
    obtain ⟨vs2, q2, e3, hr2, hty, _⟩ := hs1.runL hc (staticL call hc hd rest) hr
    simp only [bitList, he2, hr2, Option.map_some, List.map_cons, hty]
theorem staticF (call : Ctx) (hc : CallWF call) (hd : CallStatic call) : (fs : FieldExprs) → ∀ (b1 b2 : BEnv)
    (vs : List (String × VTy × List Bool)) (p : P) (b1' : BEnv), bitFields call b1 fs = some (vs, p, b1') → SameSh b1 b2 →
    (bitFields call b2 fs).map (fun r => r.1.map (fun x => (x.1, x.2.1))) = some (vs.map (fun x => (x.1, x.2.1)))
  | .nil => fun b1 b2 vs p b1' h _ => by
    cases bitFields_nil.symm.trans h
    rfl
  | .cons n e rest => fun b1 b2 vs p b1' h hs => by
    obtain ⟨te, x, p1, env1, vs', p2, he, hr, rfl, _⟩ := bitFields_cons h
    obtain ⟨x2, q1, e2, he2, hs1, _⟩ := hs.runE hc (staticE call hc hd e) he
    obtain ⟨vs2, q2, e3, hr2, hty, _⟩ := hs1.runF hc (staticF call hc hd rest) hr
    simp only [bitFields, he2, hr2, Option.map_some, List.map_cons, hty]
theorem staticArms (call : Ctx) (hc : CallWF call) (hd : CallStatic call) : (arms : Arms) → ∀ (benv1 benv2 : BEnv) (ts : Ty)
    (sb1 sb2 : List Bool) (st1 st2 st1' : ArmSt), bitArms call benv1 ts sb1 arms st1 = some st1' → SameSh benv1 benv2 →
    sb1.length = ts.size → sb2.length = ts.size → st1.2.1.map (·.1) = st2.2.1.map (·.1) → SameSh st1.2.2.2 st2.2.2.2 →
    shape st1.2.2.2 = shape benv1 →
    (bitArms call benv2 ts sb2 arms st2).map (fun r => r.2.1.map (·.1)) = some (st1'.2.1.map (·.1))
  | .nil => fun benv1 benv2 ts sb1 sb2 st1 st2 st1' h _ _ _ hret _ _ => by
    cases bitArms_nil.symm.trans h
    exact congrArg some hret.symm
  | .cons pat e rest => fun benv1 benv2 ts sb1 sb2 (hp1, ret1, pacc1, envA1) (hp2, ret2, pacc2, envA2) st1' h hs hl1 hl2 hret
      hsa hsh => by
    obtain ⟨m, bb, te, be, pe, enve, hpat, he, hty, hr⟩ := bitArms_cons h
    obtain ⟨m2, bb2, hpat2, hbb⟩ := patG_run hl1 hl2 hpat
    obtain ⟨be2, pe2, enve2, he2, hse, _⟩ := (hbb.append hs).runE hc (staticE call hc hd e) he
    -- the value selected so far has the same type in both runs: the type of this arm, if there is one
    have hty2 : ∀ tr rbits, ret2 = some (tr, rbits) → tr = te := fun tr rbits e2 => by
      subst e2
      obtain ⟨⟨tr1, rb1⟩, rfl, (rfl : tr1 = tr)⟩ := Option.map_eq_some_iff.mp hret
      exact hty _ _ rfl
    have hout : SameSh (armOut bb enve) (armOut bb2 enve2) := by
      unfold armOut
      rw [← hbb.length]
      exact hse.drop _
    have hso : shape (armOut bb enve) = shape envA1 := (shape_armOut_run he).trans hsh.symm
    rw [bitArms_cons_eq hpat2 he2 hty2]
    exact staticArms call hc hd rest benv1 benv2 ts sb1 sb2 _ _ st1' hr hs hl1 hl2 rfl (hout.mux _ _ hsa hso)
      ((shape_muxEnv _ _ _ hso).trans (hso.trans hsh))
theorem staticSS (call : Ctx) (hc : CallWF call) (hd : CallStatic call) : (ss : StmtList) → ∀ (b1 b2 : BEnv) (t : VTy) (bs : List Bool)
    (p : P) (b1' : BEnv), bitStmts call b1 ss = some (t, bs, p, b1') → SameSh b1 b2 →
    (bitStmts call b2 ss).map (fun r => (r.1, shape r.2.2.2)) = some (t, shape b1')
  | .nil => fun b1 b2 t bs p b1' h hs => by
    cases bitStmts_nil.symm.trans h
    exact congrArg (fun s => some (VTy.unit, s)) hs.1.symm
  | .cons s .nil => fun b1 b2 t bs p b1' h hs => staticS call hc hd s _ b2 _ _ _ _ (bitStmts_one.symm.trans h) hs
  | .cons s (.cons s2 rest) => fun b1 b2 t bs p b1' h hs => by
    obtain ⟨t1, bs1, p1, env1, p2, hst, hr, _⟩ := bitStmts_cons h
    obtain ⟨x2, q1, e2, hst2, hs1⟩ := hs.runS (widthS call hc s) (staticS call hc hd s) hst
    obtain ⟨y2, q2, e3, hr2, hs2⟩ := hs1.runS (widthSS call hc _) (staticSS call hc hd (.cons s2 rest)) hr
    simp only [bitStmts, hst2, hr2, Option.map_some, hs2.1]
theorem staticS (call : Ctx) (hc : CallWF call) (hd : CallStatic call) : (s : Stmt) → ∀ (b1 b2 : BEnv) (t : VTy) (bs : List Bool)
    (p : P) (b1' : BEnv), bitStmt call b1 s = some (t, bs, p, b1') → SameSh b1 b2 →
    (bitStmt call b2 s).map (fun r => (r.1, shape r.2.2.2)) = some (t, shape b1')
  | .let_ pat e => fun b1 b2 t bs p b1' h hs => by
    obtain ⟨te, x, env1, bb, he, rfl, _, rfl, hpat⟩ := bitStmt_let h
    obtain ⟨x2, q, e2, he2, hs1, hx1, hx2⟩ := hs.runE hc (staticE call hc hd e) he
    rcases hpat with ⟨v, rfl, rfl⟩ | ⟨hpat, hirr, m, hp⟩
    · simp only [bitStmt, he2, Option.map_some, List.cons_append, List.nil_append, shape_cons, hs1.1]
    · obtain ⟨m2, bb2, hp2, hbb⟩ := patG_run hx1 hx2 hp
      rcases hpat with ⟨_, rfl⟩ | ⟨_, _, rfl⟩ | ⟨_, _, _, rfl⟩
      all_goals simp only [bitStmt, he2, hirr, hp2, if_true, Option.map_some, shape_append, hbb.1, hs1.1]
  | .letMut x e => fun b1 b2 t bs p b1' h hs => by
    obtain ⟨te, v, env1, he, rfl, _, rfl⟩ := bitStmt_letMut h
    obtain ⟨v2, q, e2, he2, hs1, _⟩ := hs.runE hc (staticE call hc hd e) he
    simp only [bitStmt, he2, Option.map_some, shape_cons, hs1.1]
  | .assign x path e => fun b1 b2 t bs p b1' h hs => by
    obtain ⟨te, v, p1, env1, tv, vbits, he, hg, rfl, _, hpath⟩ := bitStmt_assign h
    obtain ⟨v2, q, e2, he2, hs1, hv1, hv2⟩ := hs.runE hc (staticE call hc hd e) he
    obtain ⟨vbits2, hg2⟩ := hs1.get hg
    rcases hpath with ⟨rfl, rfl, _, rfl⟩ | ⟨hne, vbits', p2, env2, hu, _, rfl⟩
    · simp only [bitStmt, he2, hg2, if_true, Option.map_some, shape_set, hs1.1]
    · obtain ⟨⟨out2, q2, e3⟩, hu2⟩ := Option.isSome_iff_exists.mp
        (staticU call hc hd path env1 e2 tv.toTy vbits vbits2 te v v2 _ _ _ hu hs1 (hs1.2.1.get hg) (hs1.2.2.get hg2) hv1 hv2)
      have hsh : shape e3 = shape env2 := by
        rw [shapeU call path _ _ _ _ _ _ _ _ hu2, shapeU call path _ _ _ _ _ _ _ _ hu, hs1.1]
      cases path
      case nil => exact absurd rfl hne
      all_goals simp only [bitStmt, he2, hg2, hu2, Option.map_some, shape_set, hsh]
  | .expr e => fun b1 b2 t bs p b1' h hs => by
    obtain ⟨x2, q, e2, he2, hs1, _⟩ := hs.runE hc (staticE call hc hd e) (bitStmt_expr.symm.trans h)
    rw [bitStmt_expr, he2, Option.map_some, hs1.1]
  | .for_ pat arr body => fun b1 b2 t bs p b1' h hs => by
    obtain ⟨te, n, abits, pa, env1, ha, hirr, hl, rfl, _⟩ := bitStmt_for h
    obtain ⟨abits2, q, e2, ha2, hs1, hx1, hx2⟩ := hs.runE hc (staticE call hc hd arr) ha
    have step : ∀ el1 el2 env env' pb envb, el1.length = te.size → el2.length = te.size → SameSh env env' →
        loopStep call pat te body el1 env = some (pb, envb) →
        ∃ pb2 envb2, loopStep call pat te body el2 env' = some (pb2, envb2) ∧ SameSh envb envb2 := by
      intro el1 el2 env env' pb envb h1 h2 hse hstep
      obtain ⟨m, bb, _, _, hpat, hbody⟩ := loopStep_some.1 hstep
      obtain ⟨m2, bb2, hpat2, hbb⟩ := patG_run h1 h2 hpat
      obtain ⟨x2, pb2, envb2, hbody2, hsb⟩ := (hbb.append hse).runS (widthSS call hc body) (staticSS call hc hd body) hbody
      exact ⟨pb2, envb2, loopStep_some.2 ⟨m2, bb2, _, x2, hpat2, hbody2⟩, hsb⟩
    obtain ⟨⟨q3, e3⟩, hl2, hsh⟩ := Option.map_eq_some_iff.mp
      (foldLoop_static step (q0 := q) (by rw [chunks_length, chunks_length])
        (chunks_sizes te.size n abits (array_wires_length hx1)) (chunks_sizes te.size n abits2 (array_wires_length hx2)) hs1 hl)
    rw [bitStmt_for_eq ha2 hirr hl2, Option.map_some, hsh]
  | .forJoin _ _ _ _ => fun _ _ _ _ _ _ h _ => nomatch h
theorem staticU (call : Ctx) (hc : CallWF call) (hd : CallStatic call) : (path : Path) → ∀ (b1 b2 : BEnv) (t : Ty) (cur1 cur2 : List Bool)
    (vt : VTy) (vb1 vb2 out : List Bool) (p : P) (b1' : BEnv), bitUpd call b1 t cur1 vt vb1 path = some (out, p, b1') → SameSh b1 b2 →
    cur1.length = t.size → cur2.length = t.size → vb1.length = vt.toTy.size → vb2.length = vt.toTy.size →
    (bitUpd call b2 t cur2 vt vb2 path).isSome = true
  | .nil => fun b1 b2 t cur1 cur2 vt vb1 vb2 out p b1' h _ _ _ _ _ => by
    simp only [bitUpd, (bitUpd_nil h).1, if_true, Option.isSome_some]
  | .tup i rest => fun b1 b2 t cur1 cur2 vt vb1 vb2 out p b1' h hs hc1 hc2 hv1 hv2 => by
    obtain ⟨ts, off, ti, sub, rfl, hn, hu, _⟩ := bitUpd_tup h
    have hb := nth?_bound ts i off ti hn
    obtain ⟨⟨o2, q2, e2⟩, hu2⟩ := Option.isSome_iff_exists.mp
      (staticU call hc hd rest b1 b2 ti _ ((cur2.drop off).take ti.size) vt vb1 vb2 _ _ _ hu hs
        (slice_length cur1 off ti.size (hc1 ▸ hb)) (slice_length cur2 off ti.size (hc2 ▸ hb)) hv1 hv2)
    simp only [bitUpd, hn, hu2, Option.isSome_some]
  | .fld f rest => fun b1 b2 t cur1 cur2 vt vb1 vb2 out p b1' h hs hc1 hc2 hv1 hv2 => by
    obtain ⟨_, fs, off, ti, sub, rfl, hn, hu, _⟩ := bitUpd_fld h
    have hb := fields_nth?_bound fs f off ti hn
    obtain ⟨⟨o2, q2, e2⟩, hu2⟩ := Option.isSome_iff_exists.mp
      (staticU call hc hd rest b1 b2 ti _ ((cur2.drop off).take ti.size) vt vb1 vb2 _ _ _ hu hs
        (slice_length cur1 off ti.size (hc1 ▸ hb)) (slice_length cur2 off ti.size (hc2 ▸ hb)) hv1 hv2)
    simp only [bitUpd, hn, hu2, Option.isSome_some]
  | .index ie rest => fun b1 b2 t cur1 cur2 vt vb1 vb2 out p b1' h hs hc1 hc2 hv1 hv2 => by
    obtain ⟨te, n, ibits, pi, env1, sub, p2, rfl, hi, hn, hu, _⟩ := bitUpd_index h
    obtain ⟨ib2, q1, e2, hi2, hs1, hy1, hy2⟩ := hs.runE hc (staticE call hc hd ie) hi
    obtain ⟨⟨o2, q2, e3⟩, hu2⟩ := Option.isSome_iff_exists.mp
      (staticU call hc hd rest env1 e2 te _ (selected te.size (indexMux ib2 (chunks te.size n cur2))) vt vb1 vb2 _ _ _ hu hs1
        (index_sel_length te.size n cur1 ibits (array_wires_length hc1))
        (index_sel_length te.size n cur2 ib2 (array_wires_length hc2)) hv1 hv2)
    simp only [bitUpd, hi2, hy2.trans hy1.symm, hn, if_true, hu2, Option.isSome_some]
end

theorem bindParams_static : ∀ (ps : List (String × Ty)) (a1 a2 : List (VTy × List Bool)) (callee : BEnv),
    bindParams ps a1 = some callee → a1.map (·.1) = a2.map (·.1) →
    ∃ callee2, bindParams ps a2 = some callee2 ∧ shape callee2 = shape callee
  | [], [], [], callee, h, _ => ⟨callee, h, rfl⟩
  | [], [], _ :: _, _, _, ht => nomatch ht
  | [], _ :: _, _, _, h, _ => nomatch h
  | _ :: _, [], _, _, h, _ => nomatch h
  | _ :: _, _ :: _, [], _, _, ht => nomatch ht
  | (x, ty) :: ps, (t, bs) :: as, (t2, bs2) :: as2, callee, h, ht => by
    obtain ⟨env, hty, henv, rfl⟩ := bindParams_cons h
    cases (List.cons.inj ht).1
    obtain ⟨env2, h2, hs2⟩ := bindParams_static ps as as2 env henv (List.cons.inj ht).2
    exact ⟨env2 ++ [(x, t, bs2)], by simp only [bindParams, if_pos hty, h2], by rw [shape_append, shape_append, hs2]; rfl⟩

theorem callAt_static (prog : Prog) : ∀ n, CallStatic ⟨callAt prog n, prog.enum?⟩
  | 0 => fun _ _ _ _ _ _ h => nomatch h
  | n + 1 => by
    intro fn a1 a2 t bs p h hty hw1 hw2
    obtain ⟨d, cb, callee, _, hfn, hcbe, hbp, hbody⟩ := callAt_succ h
    obtain ⟨callee2, hbp2, hsh⟩ := bindParams_static d.params a1 a2 callee hbp hty
    have hs : SameSh (callee ++ cb) (callee2 ++ cb) :=
      SameSh.append ⟨hsh.symm, bindParams_wf d.params a1 callee hbp hw1, bindParams_wf d.params a2 callee2 hbp2 hw2⟩
        (SameSh.refl (constEnvOf_wf _ _ cb hcbe))
    obtain ⟨x2, q, e2, hb2, _⟩ := hs.runS (widthSS _ (callAt_wf prog n) d.body)
      (staticSS _ (callAt_wf prog n) (callAt_static prog n) d.body) hbody
    exact ⟨x2, q, by simp only [callAt, hfn, hcbe, hbp2, hb2]⟩

/-- **the verdict of the compiler model is static**: if a function body is inside the model for one assignment of wires
to the variables in scope, it is for every assignment to variables of the same types, with the same result type and the
same variables afterwards (calls inlined to any depth) -/
theorem static_program (prog : Prog) (depth : Nat) (b1 b2 b1' : BEnv) (body : StmtList) (t : VTy) (bits : List Bool) (p : P)
    (hs : SameSh b1 b2) (h : bitStmts ⟨callAt prog depth, prog.enum?⟩ b1 body = some (t, bits, p, b1')) :
    ∃ bits2 p2 b2', bitStmts ⟨callAt prog depth, prog.enum?⟩ b2 body = some (t, bits2, p2, b2') ∧ shape b2' = shape b1' := by
  obtain ⟨x, q, e, h2, hse⟩ := hs.runS (widthSS _ (callAt_wf prog depth) body)
    (staticSS _ (callAt_wf prog depth) (callAt_static prog depth) body) h
  exact ⟨x, q, e, h2, hse.1.symm⟩

/-- the arguments `fnTyped` tries a function on: all-zero wires of the parameter types -/
def zeroArgs (ps : List (String × Ty)) : List (VTy × List Bool) :=
  ps.map fun xt => (VTy.ofTy xt.2, List.replicate xt.2.size false)

theorem zeroArgs_wf (ps : List (String × Ty)) : ArgsWF (zeroArgs ps) := by
  intro a ha
  obtain ⟨xt, _, rfl⟩ := List.mem_map.mp ha
  rw [VTy.toTy_ofTy]
  exact List.length_replicate

theorem bindParams_zero : ∀ (ps : List (String × Ty)),
    bindParams ps (zeroArgs ps) = some (ps.map fun xt => (xt.1, VTy.ofTy xt.2, List.replicate xt.2.size false)).reverse
  | [] => rfl
  | (x, ty) :: ps => by
    rw [zeroArgs, List.map_cons, bindParams, if_pos rfl, ← zeroArgs, bindParams_zero ps, List.map_cons, List.reverse_cons]

/-- a function `fnTyped` accepts can be called (in the model) on all arguments of its parameter types, and the result has
its declared type -/
theorem typed_call (prog : Prog) (f : String) (d : FnDef) (hfn : prog.fn? f = some d) (hty : fnTyped prog d = true)
    (args : List (VTy × List Bool)) (htys : args.map (·.1) = d.params.map (fun xt => VTy.ofTy xt.2)) (hw : ArgsWF args) :
    ∃ bs p, callAt prog (prog.fns.length + 2) f args = some (VTy.ofTy d.ret, bs, p) := by
  -- the call on the all-zero arguments is what `fnTyped` computes
  have hz : (callAt prog (prog.fns.length + 2) f (zeroArgs d.params)).map (·.1) = some (VTy.ofTy d.ret) := by
    unfold fnTyped bitBody at hty
    split at hty <;> try contradiction
    split at hty <;> try contradiction
    rw [show prog.fns.length + 2 = prog.fns.length + 1 + 1 from rfl, callAt]
    rename_i hcb _ _ _ _ _ hbody
    simp only [bindParams_zero, Option.map_some, eq_of_beq hty, hfn, hcb, hbody]
  obtain ⟨⟨t, bs, p⟩, hz, (rfl : t = _)⟩ := Option.map_eq_some_iff.mp hz
  exact callAt_static prog (prog.fns.length + 2) f (zeroArgs d.params) args _ _ _ hz
    (List.map_map.trans htys.symm) (zeroArgs_wf d.params) hw

end Bit
end GV
