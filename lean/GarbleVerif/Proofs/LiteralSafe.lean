import GarbleVerif.Model.Literal
import GarbleVerif.Proofs.Encoding
/-!
# A literal that `is_of_type` accepts denotes a well-typed value, and `as_bits` emits that value's encoding
-/
namespace GV

namespace Fields
def names : Fields → List String
  | nil => []
  | cons n _ r => n :: r.names
def toList : Fields → List (String × Ty)
  | nil => []
  | cons n t r => (n, t) :: r.toList
end Fields

/- `DefsOK`: the definitions the literal is encoded with are the ones the type was expanded from; struct fields
have distinct names; a unit variant has no fields -/
mutual
def Ty.DefsOK (d : Defs) : Ty → Prop
  | .bool => True
  | .int _ => True
  | .array t _ => t.DefsOK d
  | .tuple ts => ts.DefsOK d
  | .struct name fs => d.struct? name = some fs ∧ fs.names.Nodup ∧ fs.DefsOK d
  | .enum name vs => d.enum? name = some vs ∧ vs.DefsOK d
def TyList.DefsOK (d : Defs) : TyList → Prop
  | .nil => True
  | .cons t r => t.DefsOK d ∧ r.DefsOK d
def Fields.DefsOK (d : Defs) : Fields → Prop
  | .nil => True
  | .cons _ t r => t.DefsOK d ∧ r.DefsOK d
def Variants.DefsOK (d : Defs) : Variants → Prop
  | .nil => True
  | .cons _ u fs r => (u = true → fs = .nil) ∧ fs.DefsOK d ∧ r.DefsOK d
end

theorem Fields.find?_DefsOK (d : Defs) (fs : Fields) (n : String) (t : Ty) (hd : fs.DefsOK d)
    (h : fs.find? n = some t) : t.DefsOK d := by
  fun_induction Fields.find? fs n with
  | case1 => cases h
  | case2 =>
    cases h
    exact hd.1
  | case3 _ _ _ _ _ ih => exact ih hd.2 h

theorem Fields.find?_mem_names (fs : Fields) (n : String) (t : Ty) (h : fs.find? n = some t) : n ∈ fs.names := by
  fun_induction Fields.find? fs n with
  | case1 => cases h
  | case2 _ _ _ _ hn => exact List.mem_cons.mpr (.inl (beq_iff_eq.mp hn).symm)
  | case3 _ _ _ _ _ ih => exact List.mem_cons_of_mem _ (ih h)

theorem Fields.mem_names_of_mem (fs : Fields) (n : String) (t : Ty) (h : (n, t) ∈ fs.toList) : n ∈ fs.names := by
  fun_induction Fields.toList fs with
  | case1 => cases h
  | case2 _ _ _ ih =>
    rcases List.mem_cons.mp h with h | h
    · cases h
      exact List.mem_cons_self ..
    · exact List.mem_cons_of_mem _ (ih h)

theorem Fields.find?_of_mem (fs : Fields) (n : String) (t : Ty) (hnd : fs.names.Nodup) (h : (n, t) ∈ fs.toList) :
    fs.find? n = some t := by
  fun_induction Fields.find? fs n with
  | case1 => cases h
  | case2 _ _ r _ hn =>
    cases beq_iff_eq.mp hn
    rcases List.mem_cons.mp h with h | h
    · cases h
      rfl
    · -- the name occurs later as well
      exact absurd (Fields.mem_names_of_mem r _ t h) (List.nodup_cons.mp hnd).1
  | case3 _ _ _ _ hn ih =>
    rcases List.mem_cons.mp h with h | h
    · cases h
      exact absurd (beq_self_eq_true _) hn
    · exact ih (List.nodup_cons.mp hnd).2 h

theorem Variants.get?_DefsOK (d : Defs) {vs : Variants} {i : Nat} {name : String} {u : Bool} {fts : TyList}
    (hd : vs.DefsOK d) (h : vs.get? i = some (name, u, fts)) : fts.DefsOK d ∧ (u = true → fts = .nil) := by
  fun_induction Variants.get? vs i with
  | case1 => cases h
  | case2 =>
    cases h
    exact ⟨hd.2.1, hd.1⟩
  | case3 _ _ _ _ _ ih => exact ih hd.2.2 h

theorem mem_of_nodup_subset_length {α : Type} [DecidableEq α] (l1 l2 : List α) (hnd : l1.Nodup)
    (hsub : ∀ x ∈ l1, x ∈ l2) (hl : l2.length ≤ l1.length) : ∀ y ∈ l2, y ∈ l1 := by
  intro y hy
  -- otherwise `y :: l1` is a longer list without duplicates inside `l2`
  refine Decidable.by_contra fun h => ?_
  have := (List.nodup_cons.mpr ⟨h, hnd⟩).length_le_of_subset (l₂ := l2) fun x hx => by
    rcases List.mem_cons.mp hx with rfl | hx
    · exact hy
    · exact hsub x hx
  rw [List.length_cons] at this
  omega

theorem replicate_length (n : Nat) (v : Val) : (ValList.replicate n v).length = n := by
  induction n with
  | zero => rfl
  | succ n ih => simp only [ValList.replicate, ValList.length, ih]

theorem replicate_allHaveType (n : Nat) (v : Val) (t : Ty) (h : v.hasType t = true) :
    (ValList.replicate n v).allHaveType t = true := by
  induction n with
  | zero => rfl
  | succ n ih => simp [ValList.replicate, ValList.allHaveType, h, ih]

theorem repeatBits_encodeAll (n : Nat) (v : Val) (t : Ty) :
    repeatBits (v.encode t) n = (ValList.replicate n v).encodeAll t := by
  induction n with
  | zero => rfl
  | succ n ih => simp only [repeatBits, ValList.replicate, ValList.encodeAll, ih]

theorem rangeVals_length (min count : Nat) : (rangeVals min count).length = count := by
  induction count generalizing min with
  | zero => rfl
  | succ c ih => simp only [rangeVals, ValList.length, ih]

theorem rangeVals_allHaveType (k : IntTy) : ∀ (count min : Nat),
    (∀ j, j < count → k.inRange ((min + j : Nat) : Int) = true) → (rangeVals min count).allHaveType (.int k) = true
  | 0, _, _ => rfl
  | c + 1, min, h => by
    have ih := rangeVals_allHaveType k c (min + 1) fun j hj => by
      rw [Nat.add_right_comm, Nat.add_assoc]
      exact h (j + 1) (Nat.succ_lt_succ hj)
    rw [rangeVals, ValList.allHaveType, Val.hasType, show k.inRange (min : Int) = true from h 0 (Nat.succ_pos c), ih]
    rfl

theorem rangeBits_encodeAll (k : IntTy) : ∀ (count min : Nat),
    rangeBits k.bits min count = (rangeVals min count).encodeAll (.int k) := by
  intro count
  induction count with
  | zero => intro min; rfl
  | succ c ih =>
    intro min
    simp only [rangeBits, rangeVals, ValList.encodeAll, Val.encode, ih (min + 1), intToBits_natCast]

/-! ### struct fields: from "each literal field is a field of the definition" to "in definition order" -/

theorem fieldsOfType_names (lfs : LitFields) (fs : Fields) (h : lfs.fieldsOfType fs = true) :
    ∀ x ∈ lfs.names, x ∈ fs.names := by
  fun_induction LitFields.names lfs with
  | case1 => exact fun _ hx => nomatch hx
  | case2 n l r ih =>
    simp only [LitFields.fieldsOfType, Bool.and_eq_true] at h
    intro x hx
    rcases List.mem_cons.mp hx with rfl | hx
    · cases hf : fs.find? x with
      | none => simp [hf] at h
      | some t => exact Fields.find?_mem_names fs x t hf
    · exact ih h.2 x hx

theorem Fields.names_length : ∀ fs : Fields, fs.names.length = fs.length
  | .nil => rfl
  | .cons _ _ r => congrArg (· + 1) (Fields.names_length r)

theorem LitFields.names_length : ∀ lfs : LitFields, lfs.names.length = lfs.length
  | .nil => rfl
  | .cons _ _ r => congrArg (· + 1) (LitFields.names_length r)

theorem denoteInOrder_of_fields (d : Defs) (lfs : LitFields) (fs : Fields)
    (h : ∀ n t, (n, t) ∈ fs.toList →
      ∃ v, lfs.denoteField n t = some v ∧ v.hasType t = true ∧ lfs.findBits d n = some (v.encode t)) :
    ∃ fvs, lfs.denoteInOrder fs = some fvs ∧ fvs.haveTypes fs = true ∧ lfs.asBitsInOrder d fs = fvs.encodeEach fs := by
  fun_induction Fields.toList fs with
  | case1 => exact ⟨.nil, by rw [LitFields.denoteInOrder], rfl, by rw [LitFields.asBitsInOrder]; rfl⟩
  | case2 n t rest ih =>
    obtain ⟨v, hv1, hv2, hv3⟩ := h n t (List.mem_cons_self ..)
    obtain ⟨fvs, h1, h2, h3⟩ := ih fun n' t' h' => h n' t' (List.mem_cons_of_mem _ h')
    refine ⟨.cons n v fvs, ?_, ?_, ?_⟩
    · rw [LitFields.denoteInOrder, hv1, h1]
    · rw [FieldVals.haveTypes, hv2, h2, beq_self_eq_true]
      rfl
    · rw [LitFields.asBitsInOrder, hv3, h3, FieldVals.encodeEach]

mutual
theorem Lit.accept (d : Defs) : (l : Lit) → ∀ (t : Ty), t.DefsOK d → l.isOfType t = true →
    ∃ v, l.denote t = some v ∧ v.hasType t = true ∧ l.asBits d = v.encode t
  | .true, t, _, h => by
    cases t with
    | bool => exact ⟨.bool true, by simp only [Lit.denote], rfl, by simp only [Lit.asBits, Val.encode]⟩
    | _ => cases h
  | .false, t, _, h => by
    cases t with
    | bool => exact ⟨.bool false, by simp only [Lit.denote], rfl, by simp only [Lit.asBits, Val.encode]⟩
    | _ => cases h
  | .numU n k, t, _, h => by
    cases t with
    | int k2 =>
      simp only [Lit.isOfType, Bool.and_eq_true, beq_iff_eq, Bool.not_eq_true'] at h
      obtain ⟨⟨rfl, hs⟩, hr⟩ := h
      exact ⟨.int n, by simp [Lit.denote, hs], hr, by simp only [Lit.asBits, Val.encode, intToBits_natCast]⟩
    | _ => cases h
  | .numS n k, t, _, h => by
    cases t with
    | int k2 =>
      simp only [Lit.isOfType, Bool.and_eq_true, beq_iff_eq] at h
      obtain ⟨⟨rfl, hs⟩, hr⟩ := h
      exact ⟨.int n, by simp [Lit.denote, hs], hr, by simp only [Lit.asBits, Val.encode]⟩
    | _ => cases h
  | .arrayRepeat elem n, t, hd, h => by
    cases t with
    | array te n2 =>
      simp only [Lit.isOfType, Bool.and_eq_true, beq_iff_eq] at h
      obtain ⟨rfl, he⟩ := h
      obtain ⟨v, hv1, hv2, hv3⟩ := Lit.accept d elem te hd he
      refine ⟨.array (ValList.replicate n v), by simp only [Lit.denote, hv1], ?_, ?_⟩
      · simp [Val.hasType, replicate_length, replicate_allHaveType n v te hv2]
      · simp only [Lit.asBits, Val.encode, hv3, repeatBits_encodeAll]
    | _ => cases h
  | .array elems, t, hd, h => by
    cases t with
    | array te n2 =>
      simp only [Lit.isOfType, Bool.and_eq_true, beq_iff_eq] at h
      obtain ⟨vs, h1, h2, h3, h4⟩ := LitList.acceptAll d elems te hd h.2
      refine ⟨.array vs, by simp only [Lit.denote, h1], ?_, ?_⟩
      · simp [Val.hasType, h2, h3, h.1]
      · simp only [Lit.asBits, Val.encode, h4]
    | _ => cases h
  | .tuple ls, t, hd, h => by
    cases t with
    | tuple ts =>
      obtain ⟨vs, h1, h2, h3⟩ := LitList.acceptEach d ls ts hd h
      exact ⟨.tuple vs, by simp only [Lit.denote, h1], h2, by simp only [Lit.asBits, Val.encode, h3]⟩
    | _ => cases h
  | .struct name lfs, t, hd, h => by
    cases t with
    | struct name' fs =>
      simp only [Lit.isOfType, Bool.and_eq_true, beq_iff_eq, decide_eq_true_eq] at h
      obtain ⟨⟨⟨rfl, hlen⟩, hft⟩, hnd⟩ := h
      obtain ⟨hdef, hfnd, hfd⟩ := hd
      -- every field of the definition occurs in the literal
      have hcover : ∀ y ∈ fs.names, y ∈ lfs.names :=
        mem_of_nodup_subset_length lfs.names fs.names hnd (fieldsOfType_names lfs fs hft)
          (by rw [Fields.names_length, LitFields.names_length, hlen]; exact Nat.le_refl _)
      obtain ⟨fvs, h1, h2, h3⟩ := denoteInOrder_of_fields d lfs fs fun n t hm =>
        LitFields.acceptField d lfs fs hfd hft n t (Fields.find?_of_mem fs n t hfnd hm)
          (hcover n (Fields.mem_names_of_mem fs n t hm))
      refine ⟨.struct name fvs, ?_, by simp [Val.hasType, h2], ?_⟩
      · simp [Lit.denote, hlen, h1]
      · simp only [Lit.asBits, hdef, Val.encode, h3]
    | _ => cases h
  | .enum name variant isUnit ls, t, hd, h => by
    cases t with
    | enum name' variants =>
      simp only [Lit.isOfType, Bool.and_eq_true, beq_iff_eq] at h
      obtain ⟨rfl, hv⟩ := h
      obtain ⟨hdef, hvd⟩ := hd
      split at hv
      · rename_i i u fts hf
        simp only [Bool.and_eq_true, beq_iff_eq, Bool.or_eq_true] at hv
        obtain ⟨rfl, hor⟩ := hv
        obtain ⟨hftd, hunit⟩ := Variants.get?_DefsOK d hvd (Variants.get?_of_find? hf)
        cases u with
        | true =>
          cases hunit rfl
          refine ⟨.enum name variant true .nil, by simp [Lit.denote, hf], by simp [Val.hasType, hf, ValList.haveTypes], ?_⟩
          simp [Lit.asBits, hdef, hf, Val.encode, ValList.encodeEach]
        | false =>
          obtain ⟨vs, h1, h2, h3⟩ := LitList.acceptEach d ls fts hftd (hor.resolve_left Bool.false_ne_true)
          refine ⟨.enum name variant false vs, by simp [Lit.denote, hf, h1], by simp [Val.hasType, hf, h2], ?_⟩
          simp [Lit.asBits, hdef, hf, Val.encode, h3]
      · cases hv
    | _ => cases h
  | .range min max k, t, _, h => by
    cases t with
    | array te n =>
      cases te with
      | int k' =>
        simp only [Lit.isOfType, Bool.and_eq_true, beq_iff_eq, Bool.not_eq_true', decide_eq_true_eq, Bool.or_eq_true] at h
        obtain ⟨⟨⟨⟨rfl, hs⟩, hle⟩, hn⟩, hin⟩ := h
        refine ⟨.array (rangeVals min (max - min)), by simp [Lit.denote, hle], ?_, ?_⟩
        · simp only [Val.hasType, rangeVals_length, Bool.and_eq_true, beq_iff_eq]
          refine ⟨hn, rangeVals_allHaveType k _ _ fun j hj => ?_⟩
          -- an unsigned type: the numbers from `min` up to `max - 1` lie between 0 and `max - 1`
          simp only [k.inRange_iff, IntTy.lo, IntTy.hi, hs, Bool.false_eq_true, if_false] at hin ⊢
          omega
        · simp only [Lit.asBits, Val.encode, rangeBits_encodeAll]
      | _ => cases h
    | _ => cases h
theorem LitList.acceptAll (d : Defs) : (ls : LitList) → ∀ (t : Ty), t.DefsOK d → ls.allOfType t = true →
    ∃ vs, ls.denoteAll t = some vs ∧ vs.allHaveType t = true ∧ vs.length = ls.length ∧ ls.asBits d = vs.encodeAll t
  | .nil, _, _, _ => ⟨.nil, by simp only [LitList.denoteAll], rfl, rfl, by simp only [LitList.asBits, ValList.encodeAll]⟩
  | .cons l r, t, hd, h => by
    simp only [LitList.allOfType, Bool.and_eq_true] at h
    obtain ⟨v, hv1, hv2, hv3⟩ := Lit.accept d l t hd h.1
    obtain ⟨vs, h1, h2, h3, h4⟩ := LitList.acceptAll d r t hd h.2
    exact ⟨.cons v vs, by simp only [LitList.denoteAll, hv1, h1], by simp [ValList.allHaveType, hv2, h2],
      by simp only [ValList.length, LitList.length, h3], by simp only [LitList.asBits, ValList.encodeAll, hv3, h4]⟩
theorem LitList.acceptEach (d : Defs) : (ls : LitList) → ∀ (ts : TyList), ts.DefsOK d → ls.eachOfType ts = true →
    ∃ vs, ls.denoteEach ts = some vs ∧ vs.haveTypes ts = true ∧ ls.asBits d = vs.encodeEach ts
  | .nil, ts, _, h => by
    cases ts with
    | nil => exact ⟨.nil, by simp only [LitList.denoteEach], rfl, by simp only [LitList.asBits, ValList.encodeEach]⟩
    | cons _ _ => cases h
  | .cons l r, ts, hd, h => by
    cases ts with
    | nil => cases h
    | cons t ts =>
      simp only [LitList.eachOfType, Bool.and_eq_true] at h
      obtain ⟨v, hv1, hv2, hv3⟩ := Lit.accept d l t hd.1 h.1
      obtain ⟨vs, h1, h2, h3⟩ := LitList.acceptEach d r ts hd.2 h.2
      exact ⟨.cons v vs, by simp only [LitList.denoteEach, hv1, h1], by simp [ValList.haveTypes, hv2, h2],
        by simp only [LitList.asBits, ValList.encodeEach, hv3, h3]⟩
theorem LitFields.acceptField (d : Defs) : (lfs : LitFields) → ∀ (fs0 : Fields), fs0.DefsOK d →
    lfs.fieldsOfType fs0 = true → ∀ n t, fs0.find? n = some t → n ∈ lfs.names →
    ∃ v, lfs.denoteField n t = some v ∧ v.hasType t = true ∧ lfs.findBits d n = some (v.encode t)
  | .nil, _, _, _, _, _, _, hn => nomatch hn
  | .cons n' l r, fs0, hd, h, n, t, hf, hn => by
    simp only [LitFields.fieldsOfType, Bool.and_eq_true] at h
    by_cases hnn : (n' == n) = true
    · cases beq_iff_eq.mp hnn
      rw [hf] at h
      obtain ⟨v, hv1, hv2, hv3⟩ := Lit.accept d l t (Fields.find?_DefsOK d fs0 n' t hd hf) h.1
      exact ⟨v, by rw [LitFields.denoteField, if_pos hnn, hv1], hv2, by rw [LitFields.findBits, if_pos hnn, hv3]⟩
    · have hn2 : n ∈ r.names := (List.mem_cons.mp hn).resolve_left fun e => hnn (beq_iff_eq.mpr e.symm)
      obtain ⟨v, hv1, hv2, hv3⟩ := LitFields.acceptField d r fs0 hd h.2 n t hf hn2
      exact ⟨v, by rw [LitFields.denoteField, if_neg hnn, hv1], hv2, by rw [LitFields.findBits, if_neg hnn, hv3]⟩
end

end GV
