import GarbleVerif.Proofs.BitOps
import GarbleVerif.Proofs.BitOps2
import GarbleVerif.Proofs.BitWise
/-! The relations between the source level and the wires — `Rel` / `VRel` (a value and its encoding), `EnvRel` (the
variables), `Agrees` (the answer of one operator circuit against that of the source operator) — and the binary operators
of the table `binBits`, the shifts, multiplication by a literal and casts, each against its source operator. -/
namespace GV
namespace Bit
open Src

/-- `bs` is the encoding of the value `v` of scalar type `t` -/
def Rel (t : STy) (v : Val) (bs : List Bool) : Prop :=
  match t, v with
  | .bool, .bool b => bs = [b]
  | .int k, .int n => k.inRange n = true ∧ bs = enc k n
  | _, _ => False

theorem Rel.hasType_encode {t : STy} {v : Val} {bs : List Bool} (h : Rel t v bs) :
    v.hasType t.toTy = true ∧ bs = v.encode t.toTy := by
  cases t <;> cases v <;> simp_all [Rel, STy.toTy, Val.hasType, Val.encode, enc]

theorem Rel.bool_inv {v : Val} {bs : List Bool} (h : Rel .bool v bs) : ∃ b, v = .bool b ∧ bs = [b] := by
  cases v <;> simp_all [Rel]

theorem Rel.int_inv {k : IntTy} {v : Val} {bs : List Bool} (h : Rel (.int k) v bs) :
    ∃ n, v = .int n ∧ k.inRange n = true ∧ bs = enc k n := by
  cases v <;> simp_all [Rel]

/-- `bs` is the encoding of the value `v` of type `t` -/
def VRel (t : VTy) (v : Val) (bs : List Bool) : Prop :=
  match t with
  | .s st => Rel st v bs
  | .unit => v = Src.unit ∧ bs = []
  | .agg t => v.hasType t = true ∧ bs = v.encode t

/-- the variables of the source environment and their wires -/
inductive EnvRel : Src.Env → BEnv → Prop
  | nil : EnvRel [] []
  | cons {x : String} {v : Val} {t : VTy} {bs : List Bool} {env : Src.Env} {benv : BEnv} :
      VRel t v bs → EnvRel env benv → EnvRel ((x, v) :: env) ((x, t, bs) :: benv)

theorem EnvRel.lookup {env : Src.Env} {benv : BEnv} (h : EnvRel env benv) (x : String) (t : VTy) (bs : List Bool)
    (hb : benv.get? x = some (t, bs)) : ∃ v, env.get? x = some v ∧ VRel t v bs := by
  induction h with
  | nil => simp [BEnv.get?] at hb
  | cons hr _ ih =>
    simp only [BEnv.get?, Src.Env.get?] at hb ⊢
    split at hb
    · rename_i hx
      simp only [Option.some.injEq, Prod.mk.injEq] at hb
      obtain ⟨rfl, rfl⟩ := hb
      exact ⟨_, by simp [hx], hr⟩
    · rename_i hx
      simp only [hx]
      exact ih hb

theorem ofTy_some {ty : Ty} {t : STy} (h : STy.ofTy ty = some t) : ty = t.toTy := by
  cases ty <;> simp [STy.ofTy] at h <;> subst h <;> rfl

theorem restore_append (pre env : Src.Env) : restore env (pre ++ env) = env := by
  simp [restore]

theorem seqP_none (p : P) : seqP none p = p := rfl

theorem firstOf_one (c : Bool) : firstOf [(c, .overflow)] = if c then some .overflow else none := by
  cases c <;> rfl

/-- the circuit's answer to one operator agrees with that of the source: the encoding of the value and no panic,
or the same panic; `stuck` and `fuel` are excluded. -/
def Agrees (tr : STy) (res : Src.M Val) (r : List Bool) (panics : List (Bool × Arith.PanicKind)) : Prop :=
  match res with
  | .ok v => Rel tr v r ∧ firstOf panics = none
  | .error (.panic q) => firstOf panics = some q
  | .error _ => False

/-- `+`, `-`, `*`: the shape of `binop_add`, `binop_sub`, `binop_mul` against `checked` -/
theorem Agrees.checked {k : IntTy} {V : Int} {out : List Bool × List (Bool × Arith.PanicKind)}
    (h : (k.inRange V = true → out = (enc k V, [(false, .overflow)])) ∧
      (k.inRange V = false → ∃ bits, out = (bits, [(true, .overflow)]))) :
    Agrees (.int k) (Src.checked k V) out.1 out.2 := by
  unfold Src.checked
  cases hr : k.inRange V
  · obtain ⟨bits, rfl⟩ := h.2 hr
    exact rfl
  · rw [h.1 hr]
    exact ⟨⟨hr, rfl⟩, rfl⟩

theorem Agrees.ok {tr : STy} {v : Val} {r : List Bool} (h : Rel tr v r) : Agrees tr (.ok v) r [] := ⟨h, rfl⟩

/-- a circuit with one overflow flag (`-x`, `x * n` by repeated addition) against `checked` -/
theorem Agrees.flag {k : IntTy} {V : Int} {r : List Bool × Bool}
    (h : (k.inRange V = true → r = (enc k V, false)) ∧ (k.inRange V = false → r.2 = true)) :
    Agrees (.int k) (Src.checked k V) r.1 [(r.2, .overflow)] := by
  refine Agrees.checked (out := (r.1, [(r.2, .overflow)])) ⟨fun hr => ?_, fun hr => ⟨r.1, ?_⟩⟩
  · rw [h.1 hr]
  · rw [h.2 hr]

/-- the strict binary operators on integers, row by row of `binBits` -/
theorem binBits_int (op : Src.BinOp) (k : IntTy) (a b : Int) (ha : k.inRange a = true) (hb : k.inRange b = true) :
    ∀ out ∈ binBits op (.int k) (enc k a) (enc k b),
      Agrees out.1 (Src.binop op (.int k) (.int a) (.int b)) out.2.1 out.2.2 := by
  -- `rintro _ ⟨⟩` puts the row of `binBits` in the place of `out`; it closes the cases without a row
  cases op <;> rintro _ ⟨⟩
  case add => exact Agrees.checked (binop_add k a b ha hb)
  case sub => exact Agrees.checked (binop_sub k a b ha hb)
  case mul => exact Agrees.checked (binop_mul k a b ha hb)
  case div =>
    obtain ⟨h0, hin, hout⟩ := binop_div k a b ha hb
    show Agrees (.int k) (if b = 0 then .error (.panic .divByZero) else Src.checked k (Int.tdiv a b)) _ _
    unfold Src.checked
    split
    · exact h0 ‹_›
    · cases hr : k.inRange (Int.tdiv a b)
      · exact hout ‹_› hr
      · exact ⟨⟨hr, (hin ‹_› hr).1⟩, (hin ‹_› hr).2⟩
  case rem =>
    obtain ⟨h0, hne⟩ := binop_rem k a b ha hb
    show Agrees (.int k) (if b = 0 then .error (.panic .divByZero) else .ok (.int (Int.tmod a b))) _ _
    split
    · exact h0 ‹_›
    · exact ⟨⟨(hne ‹_›).1, (hne ‹_›).2.1⟩, (hne ‹_›).2.2⟩
  case lt => rw [binop_lt k a b ha hb]; exact Agrees.ok rfl
  case gt => rw [binop_gt k a b ha hb]; exact Agrees.ok rfl
  case le => rw [(le_bits k a b ha hb).1]; exact Agrees.ok rfl
  case ge => rw [(le_bits k a b ha hb).2]; exact Agrees.ok rfl
  case eq => rw [(binop_eq_int k a b ha hb).1]; exact Agrees.ok rfl
  case ne => rw [(binop_eq_int k a b ha hb).2]; exact Agrees.ok rfl
  case band => rw [binop_band k a b]; exact Agrees.ok ⟨bitwise_inRange k _ a b, rfl⟩
  case bor => rw [binop_bor k a b]; exact Agrees.ok ⟨bitwise_inRange k _ a b, rfl⟩
  case bxor => rw [binop_bxor k a b]; exact Agrees.ok ⟨bitwise_inRange k _ a b, rfl⟩

theorem binBits_bool (op : Src.BinOp) (a b : Bool) :
    ∀ out ∈ binBits op .bool [a] [b], Agrees out.1 (Src.binop op .bool (.bool a) (.bool b)) out.2.1 out.2.2 := by
  obtain ⟨heq, hne, hand, hor, hxor⟩ := binop_bool a b
  cases op <;> rintro _ ⟨⟩
  case eq => rw [heq]; exact Agrees.ok rfl
  case ne => rw [hne]; exact Agrees.ok rfl
  case band => rw [hand]; exact Agrees.ok rfl
  case bor => rw [hor]; exact Agrees.ok rfl
  case bxor => rw [hxor]; exact Agrees.ok rfl

/-- every row of `binBits` agrees with `Src.binop` on operands of the operator's type -/
theorem binBits_agrees (op : Src.BinOp) (t : STy) (x y : List Bool) (va vb : Val) (tr : STy) (r : List Bool)
    (panics : List (Bool × Arith.PanicKind)) (hx : Rel t va x) (hy : Rel t vb y)
    (h : binBits op t x y = some (tr, r, panics)) : Agrees tr (Src.binop op t.toTy va vb) r panics := by
  cases t with
  | bool =>
    obtain ⟨a, rfl, rfl⟩ := hx.bool_inv
    obtain ⟨b, rfl, rfl⟩ := hy.bool_inv
    exact binBits_bool op a b _ h
  | int k =>
    obtain ⟨a, rfl, ha, rfl⟩ := hx.int_inv
    obtain ⟨b, rfl, hb, rfl⟩ := hy.int_inv
    exact binBits_int op k a b ha hb _ h

theorem shift_agrees {op : Src.BinOp} (hop : op = .shl ∨ op = .shr) {k : IntTy} {x y : List Bool} {va vb : Val}
    (hra : Rel (.int k) va x) (hrb : Rel (.int .u8) vb y) :
    Agrees (.int k) (Src.binop op (STy.int k).toTy va vb)
      (Arith.binop (if op = .shl then .shl else .shr) k.signed false k.signed x y).1
      (Arith.binop (if op = .shl then .shl else .shr) k.signed false k.signed x y).2 := by
  obtain ⟨a, rfl, ha, rfl⟩ := hra.int_inv
  obtain ⟨s, rfl, hs, rfl⟩ := hrb.int_inv
  rcases hop with rfl | rfl
  · have h := binop_shl k a s ha hs
    simp only [if_true, Src.binop, STy.toTy]
    by_cases hc : s < 0 ∨ s ≥ k.bits
    · rw [if_pos hc]; exact h.1 hc
    · rw [if_neg hc]
      exact ⟨⟨inRange_wrapTo k _, (h.2 hc).1⟩, (h.2 hc).2⟩
  · have h := binop_shr k a s ha hs
    simp only [reduceCtorEq, if_false, Src.binop, STy.toTy]
    by_cases hc : s < 0 ∨ s ≥ k.bits
    · rw [if_pos hc]; exact h.1 hc
    · rw [if_neg hc]
      exact ⟨⟨(h.2 hc).1, (h.2 hc).2.1⟩, (h.2 hc).2.2⟩

/-- `n * x` and `x * n` for a positive literal `n` -/
theorem litMul_agrees {k : IntTy} {n0 : Int} (hpos : 0 < n0) {y : List Bool} {vb : Val} (hrb : Rel (.int k) vb y)
    (litFirst : Bool) :
    Agrees (.int k) (if litFirst then Src.binop .mul (STy.int k).toTy (.int n0) vb
        else Src.binop .mul (STy.int k).toTy vb (.int n0))
      (Arith.constMul y k.signed n0.natAbs false).1 [((Arith.constMul y k.signed n0.natAbs false).2, .overflow)] := by
  obtain ⟨v, rfl, hv, rfl⟩ := hrb.int_inv
  have h := constMul_enc k v n0.natAbs hv (by omega)
  rw [show ((n0.natAbs : Nat) : Int) = n0 by omega] at h
  cases litFirst
  · rw [Int.mul_comm] at h; exact Agrees.flag h
  · exact Agrees.flag h

/-- `as` never fails on a value of the source type, and its bits are the encoding of the result -/
theorem cast_sound (ts td : STy) (va : Val) (x : List Bool) (h : Rel ts va x) :
    ∃ w, Src.cast ts.toTy td.toTy va = .ok w ∧ Rel td w (Arith.cast x ts.signed td.bits) := by
  cases ts with
  | bool =>
    obtain ⟨b, rfl, rfl⟩ := h.bool_inv
    cases td with
    | bool => exact ⟨.bool b, rfl, by simp [Rel, STy.bits, Arith.cast]⟩
    | int k' =>
      have hc := cast_bool_int k' b
      exact ⟨.int (if b then 1 else 0), rfl, ⟨hc.2, hc.1⟩⟩
  | int k =>
    obtain ⟨n, rfl, hn, rfl⟩ := h.int_inv
    cases td with
    | bool => exact ⟨.bool (n % 2 == 1), rfl, by simp [Rel, STy.signed, STy.bits, cast_int_bool k n hn]⟩
    | int k' =>
      have hc := cast_int_int k k' n hn
      exact ⟨.int (Src.wrapTo k' n), rfl, ⟨hc.2, hc.1⟩⟩

end Bit
end GV
