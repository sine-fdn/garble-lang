import GarbleVerif.Model.Builder
import GarbleVerif.Proofs.Util
/-! What a wire of the builder computes (`valsFrom`, `sem`); the notions every request is followed with (`Ext`, `Has`,
`HasAll`) and the invariant `WF`. -/
namespace GV
namespace Builder

theorem valsFrom_append (init : List Bool) (gs hs : List BGate) :
    valsFrom init (gs ++ hs) = valsFrom (valsFrom init gs) hs := by
  simp [valsFrom, List.foldl_append]

theorem valsFrom_cons (init : List Bool) (g : BGate) (gs : List BGate) :
    valsFrom init (g :: gs) = valsFrom (init ++ [gateVal init g]) gs := rfl

theorem valsFrom_length (init : List Bool) (gs : List BGate) :
    (valsFrom init gs).length = init.length + gs.length := by
  induction gs generalizing init with
  | nil => rfl
  | cons g gs ih => rw [valsFrom_cons, ih]; simp; omega

theorem valsFrom_getD_lt (init : List Bool) (gs : List BGate) (i : Nat) (h : i < init.length) :
    (valsFrom init gs).getD i false = init.getD i false := by
  induction gs generalizing init with
  | nil => rfl
  | cons g gs ih => rw [valsFrom_cons, ih _ (by simp; omega), getD_append_lt _ _ h]

theorem valsFrom_getD_gate (init : List Bool) (gs : List BGate) (i : Nat) (g : BGate) (hg : gs[i]? = some g) :
    (valsFrom init gs).getD (init.length + i) false = gateVal (valsFrom init (gs.take i)) g := by
  induction gs generalizing init i with
  | nil => simp at hg
  | cons g0 gs ih =>
    rw [valsFrom_cons]
    cases i with
    | zero =>
      obtain rfl : g0 = g := by simpa using hg
      rw [Nat.add_zero, valsFrom_getD_lt _ _ _ (by simp), getD_append_length]; rfl
    | succ i =>
      have := ih (init ++ [gateVal init g0]) i (by simpa using hg)
      rw [List.length_append, List.length_singleton, Nat.add_assoc, Nat.add_comm 1 i] at this
      -- `(g0 :: gs).take (i + 1) = g0 :: gs.take i` and `valsFrom_cons` hold by computation
      exact this

def opsLt (g : BGate) (n : Nat) : Prop :=
  match g with
  | .xor a b => a < n ∧ b < n
  | .and a b => a < n ∧ b < n

theorem opsLt_mono {g : BGate} {n m : Nat} (h : opsLt g n) (hnm : n ≤ m) : opsLt g m := by
  cases g <;> exact ⟨Nat.lt_of_lt_of_le h.1 hnm, Nat.lt_of_lt_of_le h.2 hnm⟩

def opsOf (g : BGate) (o : Nat) : Prop :=
  match g with
  | .xor a b => o = a ∨ o = b
  | .and a b => o = a ∨ o = b

theorem opsOf_gateOps (g : BGate) (o : Nat) : opsOf g o ↔ o = (gateOps g).1 ∨ o = (gateOps g).2 := by
  cases g <;> exact Iff.rfl

theorem opsLt_gateOps {g : BGate} {n : Nat} (h : opsLt g n) : (gateOps g).1 < n ∧ (gateOps g).2 < n := by
  cases g <;> exact h

theorem opsLt.of_opsOf {g : BGate} {n o : Nat} (h : opsLt g n) (ho : opsOf g o) : o < n := by
  rcases (opsOf_gateOps g o).mp ho with rfl | rfl
  · exact (opsLt_gateOps h).1
  · exact (opsLt_gateOps h).2

theorem opsLt_mapOps {f : Nat → Nat} {g : BGate} {n : Nat} (h : ∀ o, opsOf g o → f o < n) : opsLt (mapOps f g) n := by
  cases g <;> exact ⟨h _ (Or.inl rfl), h _ (Or.inr rfl)⟩

theorem opsOf_mapOps {f : Nat → Nat} {g : BGate} {o : Nat} (h : opsOf g o) : opsOf (mapOps f g) (f o) := by
  cases g <;> exact h.imp (congrArg f) (congrArg f)

theorem gateVal_mapOps {f : Nat → Nat} {g : BGate} {bv cv : List Bool}
    (h : ∀ o, opsOf g o → cv.getD (f o) false = bv.getD o false) : gateVal cv (mapOps f g) = gateVal bv g := by
  cases g <;> simp only [mapOps, gateVal, h _ (Or.inl rfl), h _ (Or.inr rfl)]

theorem gateVal_congr (vs ws : List Bool) (g : BGate) (n : Nat) (hg : opsLt g n)
    (h : ∀ i, i < n → vs.getD i false = ws.getD i false) : gateVal vs g = gateVal ws g := by
  cases g <;> simp only [gateVal, h _ hg.1, h _ hg.2]

/-- the values computed for a prefix of the gates stay -/
theorem valsFrom_take_getD (init : List Bool) (gs : List BGate) {k i : Nat} (hk : k ≤ gs.length)
    (hi : i < init.length + k) : (valsFrom init (gs.take k)).getD i false = (valsFrom init gs).getD i false := by
  conv => rhs; rw [← List.take_append_drop k gs, valsFrom_append]
  exact (valsFrom_getD_lt _ _ i (by rwa [valsFrom_length, List.length_take, Nat.min_eq_left hk])).symm

/-- the wire of a gate whose operands are earlier wires carries the gate's function of the final values -/
theorem valsFrom_getD_gate' (init : List Bool) (gs : List BGate) (i : Nat) (g : BGate) (hg : gs[i]? = some g)
    (hops : opsLt g (init.length + i)) :
    (valsFrom init gs).getD (init.length + i) false = gateVal (valsFrom init gs) g := by
  rw [valsFrom_getD_gate init gs i g hg]
  exact gateVal_congr _ _ g _ hops fun j hj =>
    valsFrom_take_getD init gs (Nat.le_of_lt (List.getElem?_eq_some_iff.mp hg).1) hj

theorem vals_length (b : Builder) (inp : List Bool) (h : inp.length + 2 = b.shift) :
    (b.vals inp).length = b.counter := by
  simp [vals, valsFrom_length, counter]; omega

/-- builder `b'` extends `b`: same shift / options, gates appended -/
structure Ext (b b' : Builder) : Prop where
  shift : b'.shift = b.shift
  cacheOn : b'.cacheOn = b.cacheOn
  gates : ∃ extra, b'.gates = b.gates ++ extra

theorem Ext.refl (b : Builder) : Ext b b := ⟨rfl, rfl, ⟨[], by simp⟩⟩

theorem Ext.trans {a b c : Builder} (h1 : Ext a b) (h2 : Ext b c) : Ext a c := by
  obtain ⟨e1, he1⟩ := h1.gates
  obtain ⟨e2, he2⟩ := h2.gates
  exact ⟨by rw [h2.shift, h1.shift], by rw [h2.cacheOn, h1.cacheOn], ⟨e1 ++ e2, by rw [he2, he1]; simp⟩⟩

theorem Ext.counter_le {b b' : Builder} (h : Ext b b') : b.counter ≤ b'.counter := by
  obtain ⟨e, he⟩ := h.gates
  simp [counter, h.shift, he]

theorem Ext.sem_eq {b b' : Builder} (h : Ext b b') (inp : List Bool) (hi : inp.length + 2 = b.shift)
    (w : Nat) (hw : w < b.counter) : b'.sem inp w = b.sem inp w := by
  obtain ⟨e, he⟩ := h.gates
  simp only [sem, vals, he, valsFrom_append]
  exact valsFrom_getD_lt _ _ _ (by rw [← vals, vals_length b inp hi]; exact hw)

theorem Ext.gateVal_eq {b b' : Builder} (h : Ext b b') (inp : List Bool) (hi : inp.length + 2 = b.shift)
    (g : BGate) (hg : opsLt g b.counter) : gateVal (b'.vals inp) g = gateVal (b.vals inp) g :=
  gateVal_congr _ _ g b.counter hg (fun i hi' => h.sem_eq inp hi i hi')

theorem Ext.map_sem_eq {b b' : Builder} (h : Ext b b') (inp : List Bool) (hi : inp.length + 2 = b.shift)
    (ws : List Nat) (hw : ∀ w, w ∈ ws → w < b.counter) : ws.map (b'.sem inp) = ws.map (b.sem inp) :=
  List.map_congr_left fun w hm => h.sem_eq inp hi w (hw w hm)

/-! ### wires with a known value

`Has b w v`: wire `w` exists in `b` and carries `v inp` on every input. The value is a function of the input alone, so the
fact survives every extension of the builder: a sequence of requests is followed by carrying these facts along. -/

structure Has (b : Builder) (w : Nat) (v : List Bool → Bool) : Prop where
  lt : w < b.counter
  sem : ∀ inp, inp.length + 2 = b.shift → b.sem inp w = v inp

theorem Has.self {b : Builder} {w : Nat} (hw : w < b.counter) : Has b w (b.sem · w) := ⟨hw, fun _ _ => rfl⟩

theorem Has.mono {b b' : Builder} {w : Nat} {v : List Bool → Bool} (h : Has b w v) (e : Ext b b') : Has b' w v :=
  ⟨Nat.lt_of_lt_of_le h.1 e.counter_le, fun inp hi => by
    rw [e.shift] at hi
    rw [e.sem_eq inp hi w h.1, h.2 inp hi]⟩

theorem Has.congr {b : Builder} {w : Nat} {v v' : List Bool → Bool} (h : Has b w v)
    (hv : ∀ inp, inp.length + 2 = b.shift → v inp = v' inp) : Has b w v' :=
  ⟨h.1, fun inp hi => by rw [h.2 inp hi, hv inp hi]⟩

/-- `Has` for a list of wires: they all exist in `b`, and on every input the list carries `vs inp` -/
structure HasAll (b : Builder) (ws : List Nat) (vs : List Bool → List Bool) : Prop where
  lt : ∀ w, w ∈ ws → w < b.counter
  sem : ∀ inp, inp.length + 2 = b.shift → ws.map (b.sem inp) = vs inp

section
variable {b b' : Builder} {w : Nat} {v : List Bool → Bool} {ws ws' : List Nat} {vs vs' : List Bool → List Bool}

theorem HasAll.self (h : ∀ w, w ∈ ws → w < b.counter) : HasAll b ws fun inp => ws.map (b.sem inp) :=
  ⟨h, fun _ _ => rfl⟩

theorem HasAll.mono (h : HasAll b ws vs) (e : Ext b b') : HasAll b' ws vs :=
  ⟨fun w hw => Nat.lt_of_lt_of_le (h.lt w hw) e.counter_le, fun inp hi => by
    rw [e.shift] at hi
    rw [e.map_sem_eq inp hi ws h.lt, h.sem inp hi]⟩

theorem HasAll.congr (h : HasAll b ws vs) (hv : ∀ inp, inp.length + 2 = b.shift → vs inp = vs' inp) :
    HasAll b ws vs' :=
  ⟨h.lt, fun inp hi => by rw [h.sem inp hi, hv inp hi]⟩

theorem HasAll.nil : HasAll b [] fun _ => [] := ⟨nofun, fun _ _ => rfl⟩

theorem HasAll.cons (hw : Has b w v) (h : HasAll b ws vs) : HasAll b (w :: ws) fun inp => v inp :: vs inp := by
  refine ⟨fun a ha => ?_, fun inp hi => by rw [List.map_cons, hw.sem inp hi, h.sem inp hi]⟩
  rcases List.mem_cons.mp ha with rfl | ha
  · exact hw.lt
  · exact h.lt a ha

/-- head and tail of the values are the values of head and tail (`vs inp` is a `cons` on the inputs that count) -/
theorem HasAll.of_cons (h : HasAll b (w :: ws) vs) :
    Has b w (fun inp => (vs inp).headD false) ∧ HasAll b ws fun inp => (vs inp).tail :=
  ⟨⟨h.lt w (.head _), fun inp hi => by rw [← h.sem inp hi]; rfl⟩,
    fun a ha => h.lt a (.tail _ ha), fun inp hi => by rw [← h.sem inp hi]; rfl⟩

theorem HasAll.append (h : HasAll b ws vs) (h' : HasAll b ws' vs') : HasAll b (ws ++ ws') fun inp => vs inp ++ vs' inp :=
  ⟨fun a ha => (List.mem_append.mp ha).elim (h.lt a) (h'.lt a), fun inp hi => by
    rw [List.map_append, h.sem inp hi, h'.sem inp hi]⟩

end

structure WF (b : Builder) : Prop where
  shift2 : 2 ≤ b.shift
  ops : ∀ i g, b.gates[i]? = some g → opsLt g (b.shift + i)
  cacheSound : ∀ g w, b.cache[g]? = some w →
    w < b.counter ∧ opsLt g b.counter ∧
    ∀ inp, inp.length + 2 = b.shift → b.sem inp w = gateVal (b.vals inp) g
  negSound : ∀ a n, b.negated[a]? = some n →
    a < b.counter ∧ n < b.counter ∧
    ∀ inp, inp.length + 2 = b.shift → b.sem inp n = !b.sem inp a
  /-- no AND gate has a constant operand or the same wire twice -/
  andNorm : ∀ (i x y : Nat), b.gates[i]? = some (BGate.and x y) → x ≠ y ∧ 2 ≤ x ∧ 2 ≤ y
  /-- with de-duplication on, every AND gate is in the cache under its own operands -/
  cacheCover : b.cacheOn = true → ∀ (i x y : Nat), b.gates[i]? = some (BGate.and x y) →
    (b.cache[BGate.and x y]?).isSome = true
  /-- with de-duplication on, no two AND gates have the same unordered pair of operands -/
  andUniq : b.cacheOn = true → ∀ (i j x y x' y' : Nat), b.gates[i]? = some (BGate.and x y) →
    b.gates[j]? = some (BGate.and x' y') → ((x = x' ∧ y = y') ∨ (x = y' ∧ y = x')) → i = j

theorem WF.two_le_counter {b : Builder} (hb : WF b) : 2 ≤ b.counter :=
  Nat.le_trans hb.shift2 (Nat.le_add_right _ _)

/-- an input of the right length; bounds that hold "for every input" are read off at this one -/
theorem WF.dummy_inp {b : Builder} (hb : WF b) : (List.replicate (b.shift - 2) false).length + 2 = b.shift := by
  rw [List.length_replicate, Nat.sub_add_cancel hb.shift2]

/-- the length of a list of wires, read off from the values at one input -/
theorem HasAll.length {b : Builder} {ws : List Nat} {vs : List Bool → List Bool} {n : Nat} (h : HasAll b ws vs)
    (hb : WF b) (hn : ∀ inp, (vs inp).length = n) : ws.length = n := by
  rw [← hn, ← h.sem _ hb.dummy_inp, List.length_map]

theorem sem_zero (b : Builder) (inp : List Bool) : b.sem inp 0 = false :=
  valsFrom_getD_lt _ _ 0 (by simp)

theorem sem_one (b : Builder) (inp : List Bool) : b.sem inp 1 = true :=
  valsFrom_getD_lt _ _ 1 (by simp)

theorem gateVal_xor (b : Builder) (inp : List Bool) (x y : Nat) :
    gateVal (b.vals inp) (.xor x y) = (b.sem inp x ^^ b.sem inp y) := rfl

theorem gateVal_and (b : Builder) (inp : List Bool) (x y : Nat) :
    gateVal (b.vals inp) (.and x y) = (b.sem inp x && b.sem inp y) := rfl

theorem gateAt_eq_some {b : Builder} {w : Nat} {g : BGate} (hg : b.gateAt w = some g) :
    b.shift ≤ w ∧ b.gates[w - b.shift]? = some g := by
  unfold gateAt at hg
  by_cases h : w < b.shift
  · rw [if_pos h] at hg; cases hg
  · rw [if_neg h] at hg; exact ⟨Nat.le_of_not_lt h, hg⟩

theorem gate_bounds {b : Builder} (hb : WF b) {w : Nat} {g : BGate} (hg : b.gateAt w = some g) : opsLt g w := by
  obtain ⟨hs, hg⟩ := gateAt_eq_some hg
  have hops := hb.ops _ _ hg
  rwa [Nat.add_sub_cancel' hs] at hops

theorem sem_gate {b : Builder} (hb : WF b) (inp : List Bool) (hi : inp.length + 2 = b.shift)
    (w : Nat) (g : BGate) (hg : b.gateAt w = some g) : b.sem inp w = gateVal (b.vals inp) g := by
  obtain ⟨hs, hg⟩ := gateAt_eq_some hg
  have hl : (false :: true :: inp).length = b.shift := hi
  have h := valsFrom_getD_gate' (false :: true :: inp) b.gates (w - b.shift) g hg (by rw [hl]; exact hb.ops _ _ hg)
  rwa [hl, Nat.add_sub_cancel' hs] at h

theorem sem_xor_gate {b : Builder} (hb : WF b) {inp : List Bool} (hi : inp.length + 2 = b.shift)
    {w x y : Nat} (hg : b.gateAt w = some (.xor x y)) : b.sem inp w = (b.sem inp x ^^ b.sem inp y) :=
  sem_gate hb inp hi w _ hg

theorem sem_and_gate {b : Builder} (hb : WF b) {inp : List Bool} (hi : inp.length + 2 = b.shift)
    {w x y : Nat} (hg : b.gateAt w = some (.and x y)) : b.sem inp w = (b.sem inp x && b.sem inp y) :=
  sem_gate hb inp hi w _ hg

end Builder
end GV
