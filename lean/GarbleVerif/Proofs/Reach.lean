import GarbleVerif.Proofs.BuildSound
import GarbleVerif.Model.RegAlloc
/-! C15, first sentence: every gate `build` keeps (apart from the two constant gates)
reaches an output. -/
namespace GV
namespace Builder

/-- builder-level reachability from the roots -/
inductive Reach (shift : Nat) (gates : List BGate) (roots : List Nat) : Nat → Prop where
  | root {r : Nat} : r ∈ roots → Reach shift gates roots r
  | op {w o : Nat} {g : BGate} : Reach shift gates roots w → shift ≤ w → gates[w - shift]? = some g →
      opsOf g o → Reach shift gates roots o

/-- "every marked gate is reachable" -/
def AllReach (shift : Nat) (gates : List BGate) (roots : List Nat) (need : List Bool) : Prop :=
  ∀ p, need.getD p false = true → Reach shift gates roots (shift + p)

theorem markWire_allReach {shift : Nat} {gates : List BGate} {roots : List Nat} {need : List Bool}
    (h : AllReach shift gates roots need) (w : Nat) (hw : Reach shift gates roots w) :
    AllReach shift gates roots (markWire shift need w) := by
  intro p hp
  rcases (getD_markWire ..).mp hp with hp | ⟨rfl, _⟩
  · exact h p hp
  · exact hw

theorem markStep_allReach {shift : Nat} {gates : List BGate} {roots : List Nat} {need : List Bool}
    (h : AllReach shift gates roots need) (k : Nat) :
    AllReach shift gates roots (markStep shift gates need k) := by
  simp only [markStep]
  split
  · rename_i hk
    split
    · rename_i g hg
      have hr := h k hk
      have hg' : gates[shift + k - shift]? = some g := by rw [Nat.add_sub_cancel_left]; exact hg
      have r1 : Reach shift gates roots (gateOps g).1 :=
        Reach.op hr (Nat.le_add_right _ _) hg' ((opsOf_gateOps g _).mpr (Or.inl rfl))
      have r2 : Reach shift gates roots (gateOps g).2 :=
        Reach.op hr (Nat.le_add_right _ _) hg' ((opsOf_gateOps g _).mpr (Or.inr rfl))
      exact markWire_allReach (markWire_allReach h _ r1) _ r2
    · exact h
  · exact h

theorem sweep_allReach {shift : Nat} {gates : List BGate} {roots : List Nat} (k : Nat) {need : List Bool}
    (h : AllReach shift gates roots need) : AllReach shift gates roots (sweep shift gates k need) := by
  induction k generalizing need with
  | zero => exact h
  | succ k ih => exact ih (markStep_allReach h k)

/-- **minimality of the marking**: only gates reachable from the roots are kept -/
theorem mark_reach (shift : Nat) (gates : List BGate) (roots : List Nat) :
    AllReach shift gates roots (mark shift gates roots) := by
  apply sweep_allReach
  intro p hp
  rcases (getD_foldl_markWire ..).mp hp with hp | ⟨-, hr⟩
  · rw [List.getD_eq_getElem?_getD, List.getElem?_replicate] at hp
    split at hp <;> cases hp
  · exact Reach.root hr

end Builder

/-- reachability from the outputs in an SSA circuit -/
inductive FReach (c : Circuit) : Nat → Prop where
  | out {o : Nat} : o ∈ c.outputGates → FReach c o
  | op {w o : Nat} {g : Gate} : FReach c w → c.totalInputs ≤ w → c.gates[w - c.totalInputs]? = some g →
      o ∈ Reg.gateOperands g → FReach c o

namespace Builder

/-- `convGate` keeps every operand but a constant `1` (of which it makes the `Not`) -/
theorem convGate_operand {shift : Nat} {g : BGate} {o : Nat} (ho : opsOf g o) (h1 : o ≠ 1) :
    fIdx shift o ∈ Reg.gateOperands (convGate shift g) := by
  cases g with
  | and x y =>
    rcases ho with rfl | rfl
    · exact .head _
    · exact .tail _ (.head _)
  | xor x y =>
    simp only [convGate]
    split
    · obtain rfl : o = y := ho.resolve_left fun e => h1 (e.trans ‹x = 1›)
      exact .head _
    · split
      · obtain rfl : o = x := ho.resolve_right fun e => h1 (e.trans ‹y = 1›)
        exact .head _
      · rcases ho with rfl | rfl
        · exact .head _
        · exact .tail _ (.head _)

/-- **every kept gate reaches an output** (C15, first sentence, model level) — also for a circuit without input bits, which
`BuildPre` excludes for the sake of the checked evaluator only -/
theorem build_reach_wf (b : Builder) (ig pw outs : List Nat) (hb : WF b) (hshift : b.shift = ig.sum + 2)
    (hrts : ∀ r, r ∈ outs ++ pw → r < b.counter) :
    ∀ i, 2 ≤ i → i < (b.build ig pw outs).gates.length →
      FReach (b.build ig pw outs) ((b.build ig pw outs).totalInputs + i) := by
  have hs2 : 2 ≤ b.shift := hb.shift2
  obtain ⟨-, hcl, hroots⟩ := mark_spec b.shift b.gates (outs ++ pw) hb.ops
  have hmr := mark_reach b.shift b.gates (outs ++ pw)
  have hsh : b.shift = (b.build ig pw outs).totalInputs + 2 := hshift
  have hget := build_gates_getElem? b ig pw outs
  have houts : (b.build ig pw outs).outputGates =
      pw.map (fun w => fIdx b.shift (remap b.shift (mark b.shift b.gates (outs ++ pw)) w)) ++
      outs.map (fun w => fIdx b.shift (remap b.shift (mark b.shift b.gates (outs ++ pw)) w)) := rfl
  -- all that is needed of `build` is in `hsh`, `hget`, `houts`
  generalize mark b.shift b.gates (outs ++ pw) = used at hcl hroots hmr hget houts
  generalize b.build ig pw outs = c at hsh hget houts ⊢
  -- builder gate `shift + n` is gate `n + 2` of the circuit
  have idx : ∀ n, b.shift + n - c.totalInputs = n + 2 := fun n => by
    rw [hsh, Nat.add_assoc, Nat.add_sub_cancel_left, Nat.add_comm]
  have hle : c.totalInputs ≤ b.shift := hsh ▸ Nat.le_add_right _ 2
  -- a reachable wire is kept, and if it is a gate, its image reaches an output
  have T : ∀ w, Reach b.shift b.gates (outs ++ pw) w → w < b.counter ∧ Kept b.shift used w ∧
      (b.shift ≤ w → FReach c (b.shift + newPos used (w - b.shift))) := by
    intro w hw
    induction hw with
    | @root r hr =>
      have hrc := hrts r hr
      have hk : Kept b.shift used r := fun hsr => hroots r hr hsr hrc
      refine ⟨hrc, hk, fun hsr => ?_⟩
      rw [← finalWire_gate hs2 hsr (hk hsr)]
      refine FReach.out (houts ▸ List.mem_append.mpr ?_)
      rcases List.mem_append.mp hr with hr | hr
      · exact Or.inr (List.mem_map_of_mem hr)
      · exact Or.inl (List.mem_map_of_mem hr)
    | @op w o g _ hsw hg ho ih =>
      obtain ⟨hwc, hkw, hfr⟩ := ih
      have holt : o < b.shift + (w - b.shift) := (hb.ops _ g hg).of_opsOf ho
      have hko : Kept b.shift used o := hcl.kept hg (hkw hsw) ho
      refine ⟨Nat.lt_trans (Nat.add_sub_cancel' hsw ▸ holt) hwc, hko, fun hso => ?_⟩
      -- the image of gate `w` has the image of `o` among its operands
      have hfg : c.gates[b.shift + newPos used (w - b.shift) - c.totalInputs]? =
          some (convGate b.shift (mapOps (remap b.shift used) g)) := by
        rw [idx]
        exact (hget ..).mpr ⟨_, g, hg, hkw hsw, rfl, rfl⟩
      have hmem := convGate_operand (shift := b.shift) (opsOf_mapOps (f := remap b.shift used) ho) (by
        rw [remap_of_ge hso (hko hso)]; exact Nat.ne_of_gt (Nat.lt_of_lt_of_le hs2 (Nat.le_add_right _ _)))
      rw [finalWire_gate hs2 hso (hko hso)] at hmem
      exact FReach.op (hfr hsw) (Nat.le_trans hle (Nat.le_add_right _ _)) hfg hmem
  -- every gate beyond the two constants is the image of a used, hence reachable, gate
  intro i hi2 hil
  obtain ⟨i, rfl⟩ : ∃ j, i = j + 2 := ⟨i - 2, (Nat.sub_add_cancel hi2).symm⟩
  obtain ⟨p, g, -, hup, rfl, -⟩ := (hget ..).mp (List.getElem?_eq_getElem hil)
  obtain ⟨-, -, hfr⟩ := T _ (hmr p hup)
  have := hfr (Nat.le_add_right _ _)
  rw [Nat.add_sub_cancel_left] at this
  rw [← Nat.add_assoc, Nat.add_right_comm, ← hsh]
  exact this

theorem build_reach (b : Builder) (ig pw outs : List Nat) (hp : BuildPre b ig (outs ++ pw)) :
    ∀ i, 2 ≤ i → i < (b.build ig pw outs).gates.length →
      FReach (b.build ig pw outs) ((b.build ig pw outs).totalInputs + i) :=
  build_reach_wf b ig pw outs hp.wf hp.shift hp.roots

end Builder
end GV
