import GarbleVerif.Proofs.BuilderSem
/-!
`remove_unused_gates` (circuit.rs) — compaction with index shifting — preserves the value of every
kept wire, for ANY `used` marking that is closed under operands; the compacted list holds exactly the used
gates, gate `p` at position `newPos used p`.
-/
namespace GV
namespace Builder

/-- closedness: operands of a used gate that are gates are used -/
def Closed (shift : Nat) (used : List Bool) (gates : List BGate) : Prop :=
  ∀ p g, gates[p]? = some g → used.getD p false = true →
    ∀ o, (match g with | .xor a b => o = a ∨ o = b | .and a b => o = a ∨ o = b) →
      shift ≤ o → used.getD (o - shift) false = true

/-- wire `w` survives compaction: it is a constant, an input or a used gate -/
def Kept (shift : Nat) (used : List Bool) (w : Nat) : Prop := shift ≤ w → used.getD (w - shift) false = true

theorem Closed.kept {shift : Nat} {used : List Bool} {gates : List BGate} (h : Closed shift used gates)
    {p o : Nat} {g : BGate} (hg : gates[p]? = some g) (hu : used.getD p false = true) (ho : opsOf g o) :
    Kept shift used o :=
  h p g hg hu o (by cases g <;> exact ho)

theorem newPos_succ (used : List Bool) (k : Nat) :
    newPos used (k + 1) = newPos used k + if used.getD k false then 1 else 0 := by
  unfold newPos
  rcases Nat.lt_or_ge k used.length with hk | hk
  · rw [List.take_add_one, List.filter_append, List.length_append, List.getElem?_eq_getElem hk,
      List.getD_eq_getElem?_getD, List.getElem?_eq_getElem hk]
    cases used[k] <;> rfl
  · rw [List.take_of_length_le hk, List.take_of_length_le (Nat.le_succ_of_le hk),
      List.getD_eq_getElem?_getD, List.getElem?_eq_none hk]
    rfl

theorem newPos_mono (used : List Bool) {p k : Nat} (h : p ≤ k) : newPos used p ≤ newPos used k := by
  induction h with
  | refl => exact Nat.le_refl _
  | step _ ih => rw [newPos_succ]; omega

theorem newPos_lt_of_used {used : List Bool} {p k : Nat} (hpk : p < k) (hu : used.getD p false = true) :
    newPos used p < newPos used k := by
  have := newPos_mono used (Nat.succ_le_of_lt hpk)
  rw [newPos_succ, hu, if_pos rfl] at this
  exact this

theorem newPos_inj {used : List Bool} {p q : Nat} (hp : used.getD p false = true) (hq : used.getD q false = true)
    (h : newPos used p = newPos used q) : p = q := by
  rcases Nat.lt_trichotomy p q with hlt | heq | hgt
  · have := newPos_lt_of_used hlt hp; omega
  · exact heq
  · have := newPos_lt_of_used hgt hq; omega

theorem remap_of_lt {shift : Nat} (used : List Bool) {w : Nat} (h : w < shift) : remap shift used w = w :=
  if_neg (by omega)

/-- the positions `0..=p` are used or unused, and `p` itself is used -/
theorem unusedUpTo_add_newPos {used : List Bool} {p : Nat} (hu : used.getD p false = true) :
    unusedUpTo used p + newPos used p = p := by
  have count (l : List Bool) : (l.filter (fun u => !u)).length + (l.filter (fun u => u)).length = l.length := by
    simpa [List.countP_eq_length_filter, Nat.add_comm] using (List.length_eq_countP_add_countP (fun u => u) (l := l)).symm
  have hp : p < used.length := by
    rcases Nat.lt_or_ge p used.length with h | h
    · exact h
    · rw [List.getD_eq_getElem?_getD, List.getElem?_eq_none h] at hu; cases hu
  have h : unusedUpTo used p + newPos used (p + 1) = p + 1 := by
    rw [unusedUpTo, newPos, count, List.length_take, Nat.min_eq_left hp]
  rw [newPos_succ, hu, if_pos rfl] at h
  exact Nat.succ.inj h

/-- for a used gate the Rust index arithmetic (`w` minus the unused gates up to it) gives `newPos` -/
theorem remap_of_ge {shift : Nat} {used : List Bool} {w : Nat} (h : shift ≤ w)
    (hu : used.getD (w - shift) false = true) : remap shift used w = shift + newPos used (w - shift) := by
  have := unusedUpTo_add_newPos hu
  unfold remap
  split
  · refine Nat.sub_eq_of_eq_add ?_
    rw [Nat.add_assoc, Nat.add_comm (newPos _ _), this, Nat.add_sub_cancel' h]
  · obtain rfl : w = shift := Nat.le_antisymm (Nat.le_of_not_lt ‹_›) h
    rw [Nat.sub_self]; rfl

/-- compaction keeps the order of the kept wires -/
theorem remap_lt {shift : Nat} {used : List Bool} {o p : Nat} (ho : o < shift + p) (hk : Kept shift used o) :
    remap shift used o < shift + newPos used p := by
  rcases Nat.lt_or_ge o shift with hlt | hge
  · rw [remap_of_lt used hlt]; exact Nat.lt_of_lt_of_le hlt (Nat.le_add_right _ _)
  · rw [remap_of_ge hge (hk hge)]
    exact Nat.add_lt_add_left (newPos_lt_of_used ((Nat.sub_lt_iff_lt_add' hge).mpr ho) (hk hge)) _

theorem compactFrom_getElem? (shift : Nat) (used : List Bool) (gs : List BGate) (k i : Nat) (g' : BGate) :
    (compactFrom shift used k gs)[i]? = some g' ↔
      ∃ j g, gs[j]? = some g ∧ used.getD (k + j) false = true ∧ newPos used (k + j) = newPos used k + i ∧
        g' = mapOps (remap shift used) g := by
  induction gs generalizing k i with
  | nil => simp [compactFrom]
  | cons g0 gs ih =>
    have hnp := newPos_succ used k
    -- the positions `k + 1 + j` of the tail are the positions `k + (j + 1)` of the list
    have tail : (∃ j g, gs[j]? = some g ∧ used.getD (k + 1 + j) false = true ∧
          newPos used (k + 1 + j) = newPos used k + i ∧ g' = mapOps (remap shift used) g) ↔
        ∃ j g, (g0 :: gs)[j + 1]? = some g ∧ used.getD (k + (j + 1)) false = true ∧
          newPos used (k + (j + 1)) = newPos used k + i ∧ g' = mapOps (remap shift used) g := by
      simp only [List.getElem?_cons_succ, Nat.add_assoc, Nat.add_comm 1]
    -- gate `k` is kept: it is entry 0 and `newPos` steps by one (`hnp`); or dropped: the result is the tail's
    -- and `newPos used (k + 1) = newPos used k`
    unfold compactFrom
    by_cases hu : used.getD k false = true
    · rw [if_pos hu]
      rw [hu, if_pos rfl] at hnp
      cases i with
      | zero =>
        rw [List.getElem?_cons_zero]
        constructor
        · intro h; exact ⟨0, g0, rfl, hu, rfl, (Option.some.inj h).symm⟩
        · rintro ⟨j, g, hg, -, hn, rfl⟩
          cases j with
          | zero => rw [List.getElem?_cons_zero] at hg; rw [Option.some.inj hg]
          -- a position after `k` has `newPos ≥ newPos used k + 1`, so it is not entry 0
          | succ j => have := newPos_mono used (show k + 1 ≤ k + (j + 1) by omega); omega
      | succ i =>
        rw [List.getElem?_cons_succ, ih, hnp, Nat.add_assoc, Nat.add_comm 1 i, tail]
        constructor
        · rintro ⟨j, g, h⟩; exact ⟨j + 1, g, h⟩
        · rintro ⟨j, g, hg, hj, hn, rfl⟩
          cases j with
          -- entry `i + 1` is not gate `k` itself, whose `newPos` is `newPos used k`
          | zero => rw [Nat.add_zero k] at hn; omega
          | succ j => exact ⟨j, g, hg, hj, hn, rfl⟩
    · rw [if_neg hu]
      rw [if_neg hu, Nat.add_zero (newPos used k)] at hnp
      rw [ih, hnp, tail]
      constructor
      · rintro ⟨j, g, h⟩; exact ⟨j + 1, g, h⟩
      · rintro ⟨j, g, hg, hj, hn, rfl⟩
        cases j with
        -- `j = 0` would be gate `k`, which is not used
        | zero => exact absurd hj hu
        | succ j => exact ⟨j, g, hg, hj, hn, rfl⟩

/-- the compacted list holds exactly the used gates, operands remapped, gate `p` at position `newPos used p` -/
theorem compact_getElem? (shift : Nat) (used : List Bool) (gates : List BGate) (i : Nat) (g' : BGate) :
    (compact shift used gates)[i]? = some g' ↔
      ∃ p g, gates[p]? = some g ∧ used.getD p false = true ∧ newPos used p = i ∧
        g' = mapOps (remap shift used) g := by
  have := compactFrom_getElem? shift used gates 0 i g'
  simp only [Nat.zero_add, show newPos used 0 = 0 from rfl] at this
  exact this

theorem compact_wf {shift : Nat} {used : List Bool} {gates : List BGate}
    (hcl : Closed shift used gates) (hwf : ∀ i g, gates[i]? = some g → opsLt g (shift + i)) :
    ∀ i g, (compact shift used gates)[i]? = some g → opsLt g (shift + i) := by
  intro i g' h
  obtain ⟨p, g, hg, hu, rfl, rfl⟩ := (compact_getElem? ..).mp h
  exact opsLt_mapOps fun o ho => remap_lt ((hwf p g hg).of_opsOf ho) (hcl.kept hg hu ho)

theorem compactFrom_length (shift : Nat) (used : List Bool) (gs : List BGate) (k : Nat) :
    newPos used k + (compactFrom shift used k gs).length = newPos used (k + gs.length) := by
  induction gs generalizing k with
  | nil => rfl
  | cons g gs ih =>
    have := ih (k + 1)
    rw [newPos_succ, Nat.add_assoc k 1, Nat.add_comm 1] at this
    unfold compactFrom
    split
    · rename_i hu
      rw [hu, if_pos rfl] at this
      rw [List.length_cons, List.length_cons, ← this, Nat.add_assoc, Nat.add_comm 1]
    · rename_i hu
      rw [if_neg hu] at this
      exact this

theorem compact_length (shift : Nat) (used : List Bool) (gates : List BGate) :
    (compact shift used gates).length = newPos used gates.length := by
  have := compactFrom_length shift used gates 0
  rwa [show newPos used 0 = 0 from rfl, Nat.zero_add, Nat.zero_add] at this

/-- **compaction preserves every kept wire**, whatever the length of `used` (a position beyond its end counts as
unused): the wire and its image are the same function of earlier kept wires, by `compact_getElem?` -/
theorem compact_val {shift : Nat} {used : List Bool} {gates : List BGate} (hcl : Closed shift used gates)
    (hwf : ∀ i g, gates[i]? = some g → opsLt g (shift + i)) (init : List Bool) (hinit : init.length = shift) (w : Nat) :
    w < shift + gates.length → Kept shift used w →
      (valsFrom init (compact shift used gates)).getD (remap shift used w) false =
        (valsFrom init gates).getD w false := by
  subst hinit
  induction w using Nat.strongRecOn with
  | ind w ih =>
    intro hw hk
    rcases Nat.lt_or_ge w init.length with hlt | hge
    · rw [remap_of_lt used hlt, valsFrom_getD_lt _ _ _ hlt, valsFrom_getD_lt _ _ _ hlt]
    · have hu := hk hge
      obtain ⟨g, hg⟩ : ∃ g, gates[w - init.length]? = some g :=
        ⟨_, List.getElem?_eq_getElem ((Nat.sub_lt_iff_lt_add' hge).mpr hw)⟩
      have hops := hwf _ _ hg
      have hc := (compact_getElem? init.length used gates _ _).mpr ⟨_, _, hg, hu, rfl, rfl⟩
      rw [remap_of_ge hge hu, valsFrom_getD_gate' init _ _ _ hc (compact_wf hcl hwf _ _ hc)]
      conv => rhs; rw [← Nat.add_sub_cancel' hge, valsFrom_getD_gate' init gates _ _ hg hops]
      rw [Nat.add_sub_cancel' hge] at hops
      exact gateVal_mapOps fun o ho =>
        ih o (hops.of_opsOf ho) (Nat.lt_trans (hops.of_opsOf ho) hw) (hcl.kept hg hu ho)

/-- invariant between the values over the first `k` original gates (`bv`) and over their compaction (`cv`) -/
structure CRel (shift : Nat) (used : List Bool) (k : Nat) (bv cv : List Bool) : Prop where
  blen : bv.length = shift + k
  clen : cv.length = shift + newPos used k
  base : ∀ w, w < shift → cv.getD w false = bv.getD w false
  kept : ∀ p, p < k → used.getD p false = true → cv.getD (shift + newPos used p) false = bv.getD (shift + p) false

theorem compact_crel {shift : Nat} {used : List Bool} {gates : List BGate} (hcl : Closed shift used gates)
    (hwf : ∀ i g, gates[i]? = some g → opsLt g (shift + i)) (init : List Bool) (hinit : init.length = shift) :
    CRel shift used gates.length (valsFrom init gates) (valsFrom init (compact shift used gates)) := by
  refine ⟨by rw [valsFrom_length, hinit], by rw [valsFrom_length, hinit, compact_length], fun w hw => ?_, fun p hp hu => ?_⟩
  · rw [valsFrom_getD_lt _ _ _ (hinit ▸ hw), valsFrom_getD_lt _ _ _ (hinit ▸ hw)]
  · have hu' : used.getD (shift + p - shift) false = true := by rwa [Nat.add_sub_cancel_left]
    have := compact_val hcl hwf init hinit (shift + p) (Nat.add_lt_add_left hp _) fun _ => hu'
    rwa [remap_of_ge (Nat.le_add_right _ _) hu', Nat.add_sub_cancel_left] at this

theorem compact_sound {shift : Nat} {used : List Bool} {gates : List BGate} (hcl : Closed shift used gates)
    (hlen : used.length = gates.length)
    (hwf : ∀ i g, gates[i]? = some g → opsLt g (shift + i))
    (init : List Bool) (hinit : init.length = shift) :
    CRel shift used gates.length (valsFrom init gates) (valsFrom init (compact shift used gates)) :=
  compact_crel hcl hwf init hinit

end Builder
end GV
