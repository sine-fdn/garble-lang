import GarbleVerif.Model.MatchSpec
import GarbleVerif.Proofs.Encoding
/-! Completeness of the reference exhaustiveness procedure `Src.uncovered`: if no representative
value is left unmatched, no value of the type is. Before the main theorem, arm selection: `firstMatch` is `List.findIdx?`
(`firstMatch_eq_findIdx?`), and `firstMatch_eq_none`, `uncovered_eq_none` as iffs. -/
namespace GV
namespace Src

/-- `r` stands for `n`: they compare in the same way with every constant -/
def SimInt (cs : List Int) (n r : Int) : Prop := ∀ c, c ∈ cs → (n < c ↔ r < c) ∧ (n = c ↔ r = c)

theorem exists_max_le (l : List Int) (n : Int) (h : ∃ s, s ∈ l ∧ s ≤ n) :
    ∃ r, r ∈ l ∧ r ≤ n ∧ ∀ s, s ∈ l → s ≤ n → s ≤ r := by
  obtain ⟨s, hs, hsn⟩ := h
  -- the greatest of the elements `≤ n`
  have hmem : ∀ x, x ∈ l.filter (· ≤ n) ↔ x ∈ l ∧ x ≤ n := fun x => by simp
  cases hm : (l.filter (· ≤ n)).max? with
  | none => exact absurd ((hmem s).mpr ⟨hs, hsn⟩) (by rw [List.max?_eq_none_iff.mp hm]; exact List.not_mem_nil)
  | some r =>
    obtain ⟨hr, hmax⟩ := List.max?_eq_some_iff.mp hm
    exact ⟨r, ((hmem r).mp hr).1, ((hmem r).mp hr).2, fun x hx hxn => hmax x ((hmem x).mpr ⟨hx, hxn⟩)⟩

theorem mem_intReps (k : IntTy) (cs : List Int) (x : Int) :
    x ∈ intReps k cs ↔ k.inRange x = true ∧ (x = k.lo ∨ x = k.hi ∨ ∃ c, c ∈ cs ∧ (x = c - 1 ∨ x = c ∨ x = c + 1)) := by
  simp only [intReps, List.mem_eraseDups, List.mem_filter, List.mem_cons, List.mem_flatMap, List.mem_nil_iff, or_false]
  exact and_comm

theorem lo_le_hi (k : IntTy) : k.lo ≤ k.hi := by cases k <;> decide

theorem exists_intRep (k : IntTy) (cs : List Int) (n : Int) (hn : k.inRange n = true) :
    ∃ r, r ∈ intReps k cs ∧ SimInt cs n r := by
  have hrange := (k.inRange_iff n).mp hn
  have hlo : k.lo ∈ intReps k cs :=
    (mem_intReps k cs k.lo).mpr ⟨(k.inRange_iff _).mpr ⟨Int.le_refl _, lo_le_hi k⟩, Or.inl rfl⟩
  obtain ⟨r, hr, hrn, hmax⟩ := exists_max_le (intReps k cs) n ⟨k.lo, hlo, hrange.1⟩
  refine ⟨r, hr, ?_⟩
  have hrrange := (k.inRange_iff r).mp ((mem_intReps k cs r).mp hr).1
  intro c hc
  have inS : ∀ x, k.lo ≤ x → x ≤ k.hi → (x = c - 1 ∨ x = c ∨ x = c + 1) → x ∈ intReps k cs := fun x h1 h2 h3 =>
    (mem_intReps k cs x).mpr ⟨(k.inRange_iff x).mpr ⟨h1, h2⟩, Or.inr (Or.inr ⟨c, hc, h3⟩)⟩
  -- `c` and `c + 1` are representatives: where they lie between `lo` and `n` they are at most `r`
  have m0 : k.lo ≤ c → c ≤ n → c ≤ r := fun h1 h2 => hmax c (inS c h1 (by omega) (.inr (.inl rfl))) h2
  have m1 : k.lo ≤ c + 1 → c + 1 ≤ n → c + 1 ≤ r := fun h1 h2 =>
    hmax _ (inS _ h1 (by omega) (.inr (.inr rfl))) h2
  omega

/-! ### values that no pattern over the constants `cs` can tell apart -/

mutual
def Sim (cs : List Int) : Val → Val → Prop
  | .bool a, .bool b => a = b
  | .int a, .int b => SimInt cs a b
  | .array _, .array _ => True
  | .tuple as, .tuple bs => SimList cs as bs
  | .struct _ fa, .struct _ fb => SimFields cs fa fb
  | .enum _ v _ as, .enum _ v' _ bs => v = v' ∧ SimList cs as bs
  | _, _ => False
def SimList (cs : List Int) : ValList → ValList → Prop
  | .nil, .nil => True
  | .cons a r, .cons b s => Sim cs a b ∧ SimList cs r s
  | _, _ => False
def SimFields (cs : List Int) : FieldVals → FieldVals → Prop
  | .nil, .nil => True
  | .cons n a r, .cons m b s => n = m ∧ Sim cs a b ∧ SimFields cs r s
  | _, _ => False
end

theorem simFields_get (cs : List Int) : ∀ (fa fb : FieldVals) (x : String), SimFields cs fa fb →
    (FieldVals'.get? fa x = none ∧ FieldVals'.get? fb x = none) ∨
    (∃ a b, FieldVals'.get? fa x = some a ∧ FieldVals'.get? fb x = some b ∧ Sim cs a b)
  | .nil, .nil, _, _ => Or.inl ⟨rfl, rfl⟩
  | .nil, .cons _ _ _, _, h | .cons _ _ _, .nil, _, h => h.elim
  | .cons n a r, .cons m b s, x, h => by
    obtain ⟨rfl, hab, hrs⟩ := h
    simp only [FieldVals'.get?]
    split
    · exact Or.inr ⟨a, b, rfl, rfl, hab⟩
    · exact simFields_get cs r s x hrs

theorem isSome_pair {α β γ : Type} (a : Option α) (b : Option β) (f : α → β → γ) :
    (match a, b with | some x, some y => some (f x y) | _, _ => none).isSome = (a.isSome && b.isSome) := by
  cases a <;> cases b <;> rfl

theorem matchPat_int_isSome (n m : Int) : (matchPat (.int n) (.int m)).isSome = decide (n = m) := by
  dsimp only [matchPat]
  split <;> simp_all

theorem matchPat_range_isSome (lo hi m : Int) :
    (matchPat (.range lo hi) (.int m)).isSome = decide (lo ≤ m ∧ m ≤ hi) := by
  dsimp only [matchPat]
  split <;> simp [*]

theorem matchPats_cons_isSome (p : Pat) (ps : PatList) (v : Val) (vs : ValList) :
    (matchPats (.cons p ps) (.cons v vs)).isSome = ((matchPat p v).isSome && (matchPats ps vs).isSome) := by
  dsimp only [matchPats]
  cases matchPat p v <;> cases matchPats ps vs <;> rfl

theorem matchFields_cons_isSome {n : String} {fvs : FieldVals} {v : Val} (h : FieldVals'.get? fvs n = some v)
    (p : Pat) (r : FieldPats) :
    (matchFields (.cons n p r) fvs).isSome = ((matchPat p v).isSome && (matchFields r fvs).isSome) := by
  dsimp only [matchFields]
  simp only [h]
  cases matchPat p v <;> cases matchFields r fvs <;> rfl

/- `Sim` relates values of one shape only (`hs.elim` otherwise); a pattern for another shape matches neither value,
and an identifier both (`rfl`); an `enumUnit` pattern compares the variant name, which `Sim` fixes. -/
mutual
theorem sim_matchPat (cs : List Int) : ∀ (p : Pat) (v v' : Val), (∀ c, c ∈ patConsts p → c ∈ cs) → Sim cs v v' →
    (matchPat p v).isSome = (matchPat p v').isSome
  | p, .bool a, v', _, hs => by
    cases v' with
    | bool b => rw [show a = b from hs]
    | _ => exact hs.elim
  | p, .int a, v', hc, hs => by
    cases v' with
    | int b =>
      cases p with
      | int n =>
        have := (hs n (hc n (by simp [patConsts]))).2
        rw [matchPat_int_isSome, matchPat_int_isSome]
        exact decide_eq_decide.mpr (eq_comm.trans (this.trans eq_comm))
      | range lo hi =>
        have hl := hs lo (hc lo (by simp [patConsts]))
        have hh := hs hi (hc hi (by simp [patConsts]))
        rw [matchPat_range_isSome, matchPat_range_isSome]
        -- `lo ≤ a` is `¬ a < lo`, `a ≤ hi` is `a < hi ∨ a = hi`: what `SimInt` keeps
        exact decide_eq_decide.mpr (and_congr (by rw [← Int.not_lt, hl.1, Int.not_lt])
          (by rw [Int.le_iff_lt_or_eq, hh.1, hh.2, ← Int.le_iff_lt_or_eq]))
      | _ => rfl
    | _ => exact hs.elim
  | p, .array _, v', _, hs => by
    cases v' with
    | array _ => cases p <;> rfl
    | _ => exact hs.elim
  | p, .tuple vs, v', hc, hs => by
    cases v' with
    | tuple vs' =>
      cases p with
      | tuple ps => exact sim_matchPats cs ps vs vs' hc hs
      | _ => rfl
    | _ => exact hs.elim
  | p, .struct _ fa, v', hc, hs => by
    cases v' with
    | struct _ fb =>
      cases p with
      | struct _ fps => exact sim_matchFields cs fps fa fb hc hs
      | _ => rfl
    | _ => exact hs.elim
  | p, .enum _ vn _ vs, v', hc, hs => by
    cases v' with
    | enum _ vn' _ vs' =>
      obtain ⟨rfl, hl⟩ := hs
      cases p with
      | enumTuple _ w ps =>
        dsimp only [matchPat]
        split
        · exact sim_matchPats cs ps vs vs' hc hl
        · rfl
      | _ => rfl
    | _ => exact hs.elim
theorem sim_matchPats (cs : List Int) : ∀ (ps : PatList) (vs vs' : ValList), (∀ c, c ∈ patListConsts ps → c ∈ cs) →
    SimList cs vs vs' → (matchPats ps vs).isSome = (matchPats ps vs').isSome
  | .nil, vs, vs', _, hs => by
    cases vs <;> cases vs' <;> first | rfl | exact hs.elim
  | .cons p ps, vs, vs', hc, hs => by
    cases vs <;> cases vs' <;> first | rfl | exact hs.elim | skip
    rename_i v1 r1 v2 r2
    have e1 := sim_matchPat cs p v1 v2 (fun c h => hc c (List.mem_append_left _ h)) hs.1
    have e2 := sim_matchPats cs ps r1 r2 (fun c h => hc c (List.mem_append_right _ h)) hs.2
    rw [matchPats_cons_isSome, matchPats_cons_isSome, e1, e2]
theorem sim_matchFields (cs : List Int) : ∀ (fps : FieldPats) (fa fb : FieldVals), (∀ c, c ∈ fieldPatsConsts fps → c ∈ cs) →
    SimFields cs fa fb → (matchFields fps fa).isSome = (matchFields fps fb).isSome
  | .nil, _, _, _, _ => rfl
  | .cons n p r, fa, fb, hc, hs => by
    rcases simFields_get cs fa fb n hs with ⟨h1, h2⟩ | ⟨a, b, h1, h2, hab⟩
    · dsimp only [matchFields]
      rw [h1, h2]
    · rw [matchFields_cons_isSome h1, matchFields_cons_isSome h2,
        sim_matchPat cs p a b (fun c h => hc c (List.mem_append_left _ h)) hab,
        sim_matchFields cs r fa fb (fun c h => hc c (List.mem_append_right _ h)) hs]
end

theorem mem_product_cons (xs : List Val) (rest : List (List Val)) (x : Val) (r : List Val)
    (hx : x ∈ xs) (hr : r ∈ product rest) : (x :: r) ∈ product (xs :: rest) := by
  simp only [product, List.mem_flatMap, List.mem_map]
  exact ⟨x, hx, r, hr, rfl⟩

theorem mem_variantsReps (cs : List Int) (ename : String) {variants : Variants} {i : Nat} {vn : String} {u : Bool}
    {fts : TyList} {rs : List Val} (h : variants.get? i = some (vn, u, fts)) (hrs : rs ∈ product (tyListReps cs fts)) :
    Val.enum ename vn u (ValList.ofList rs) ∈ variantsReps cs ename variants := by
  fun_induction Variants.get? variants i with
  | case1 => cases h
  | case2 =>
    cases h
    exact List.mem_append_left _ (List.mem_map.mpr ⟨rs, hrs, rfl⟩)
  | case3 _ _ _ _ _ ih => exact List.mem_append_right _ (ih h)

theorem rep_cases (cs : List Int) : TypedCases (fun v ty => ∃ r, r ∈ tyReps cs ty ∧ Sim cs v r) (fun _ _ => True)
    (fun vs ts => ∃ rs, rs ∈ product (tyListReps cs ts) ∧ SimList cs vs (ValList.ofList rs))
    (fun fvs fs => ∃ rs, rs ∈ product (fieldsReps cs fs) ∧
      SimFields cs fvs (FieldVals.ofList ((fieldNames fs).zip rs))) where
  bool b := ⟨.bool b, by cases b <;> simp [tyReps], rfl⟩
  int n k h := by
    obtain ⟨r, hr, hs⟩ := exists_intRep k cs n h
    exact ⟨.int r, List.mem_map.mpr ⟨r, hr, rfl⟩, hs⟩
  array vs t _ _ := ⟨.array (.replicate vs.length (((tyReps cs t).head?).getD (.bool false))), by simp [tyReps], trivial⟩
  tuple _ _ _ := fun ⟨rs, hrs, hsim⟩ => ⟨_, List.mem_map.mpr ⟨rs, hrs, rfl⟩, hsim⟩
  struct _ _ _ _ := fun ⟨rs, hrs, hsim⟩ => ⟨_, List.mem_map.mpr ⟨rs, hrs, rfl⟩, hsim⟩
  enum name _ _ _ _ _ _ hf _ := fun ⟨_, hrs, hss⟩ =>
    ⟨_, mem_variantsReps cs name (Variants.get?_of_find? hf) hrs, rfl, hss⟩
  allNil _ := trivial
  allCons _ _ _ _ _ _ _ := trivial
  eachNil := ⟨[], by simp [tyListReps, product], trivial⟩
  eachCons _ _ _ _ _ _ := fun ⟨r, hr, hs⟩ ⟨rs, hrs, hss⟩ => ⟨r :: rs, mem_product_cons _ _ _ _ hr hrs, hs, hss⟩
  fieldsNil := ⟨[], by simp [fieldsReps, product], trivial⟩
  fieldsCons _ _ _ _ _ _ _ := fun ⟨r, hr, hs⟩ ⟨rs, hrs, hss⟩ => ⟨r :: rs, mem_product_cons _ _ _ _ hr hrs, rfl, hs, hss⟩

theorem rep_ty (cs : List Int) : ∀ (ty : Ty) (v : Val), v.hasType ty = true → ∃ r, r ∈ tyReps cs ty ∧ Sim cs v r :=
  fun ty v h => (rep_cases cs).val v ty h
theorem rep_list (cs : List Int) : ∀ (ts : TyList) (vs : ValList), vs.haveTypes ts = true →
    ∃ rs, rs ∈ product (tyListReps cs ts) ∧ SimList cs vs (ValList.ofList rs) :=
  fun ts vs h => (rep_cases cs).each vs ts h
theorem rep_fields (cs : List Int) : ∀ (fs : Fields) (fvs : FieldVals), fvs.haveTypes fs = true →
    ∃ rs, rs ∈ product (fieldsReps cs fs) ∧ SimFields cs fvs (FieldVals.ofList ((fieldNames fs).zip rs)) :=
  fun fs fvs h => (rep_cases cs).fields fvs fs h
theorem rep_variants (cs : List Int) : ∀ (variants : Variants) (ename vn ename' : String) (isUnit : Bool) (vs : ValList)
    (i : Nat) (u : Bool) (fts : TyList), variants.find? vn = some (i, u, fts) → vs.haveTypes fts = true →
    ∃ r, r ∈ variantsReps cs ename variants ∧ Sim cs (.enum ename' vn isUnit vs) r :=
  fun _ ename _ _ _ vs _ _ fts hf hv =>
    let ⟨_, hrs, hss⟩ := rep_list cs fts vs hv
    ⟨_, mem_variantsReps cs ename (Variants.get?_of_find? hf) hrs, rfl, hss⟩

/-- arm selection is `List.findIdx?`, whose lemmas give the facts about `firstMatch` -/
theorem firstMatch_eq_findIdx? (v : Val) : ∀ (pats : List Pat),
    firstMatch v pats = pats.findIdx? fun p => (matchPat p v).isSome
  | [] => rfl
  | p :: rest => by
    rw [firstMatch, List.findIdx?_cons, firstMatch_eq_findIdx? v rest]
    cases matchPat p v <;> rfl

theorem firstMatch_eq_none (v : Val) (pats : List Pat) :
    firstMatch v pats = none ↔ ∀ p, p ∈ pats → matchPat p v = none := by
  simp only [firstMatch_eq_findIdx?, List.findIdx?_eq_none_iff, Option.isSome_eq_false_iff, Option.isNone_iff_eq_none]

theorem uncovered_eq_none (ty : Ty) (pats : List Pat) :
    uncovered ty pats = none ↔
      ∀ v, v ∈ tyReps (pats.flatMap patConsts) ty → ∃ p, p ∈ pats ∧ (matchPat p v).isSome = true := by
  simp only [uncovered, List.find?_eq_none, Option.isNone_iff_eq_none, firstMatch_eq_none, Classical.not_forall,
    ← Option.isSome_iff_ne_none, exists_prop]

/-- **completeness of the reference procedure**: if no representative value is unmatched, every
value of the type is matched by some arm -/
theorem uncovered_complete (ty : Ty) (pats : List Pat) (h : uncovered ty pats = none) :
    ∀ v, v.hasType ty = true → ∃ p, p ∈ pats ∧ (matchPat p v).isSome = true := by
  intro v hv
  obtain ⟨r, hr, hsim⟩ := rep_ty (pats.flatMap patConsts) ty v hv
  obtain ⟨p, hp, hm⟩ := (uncovered_eq_none ty pats).mp h r hr
  exact ⟨p, hp, (sim_matchPat _ p v r (fun c hc => List.mem_flatMap.mpr ⟨p, hp, hc⟩) hsim).trans hm⟩

end Src
end GV
