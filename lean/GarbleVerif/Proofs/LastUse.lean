import GarbleVerif.Model.RegAlloc
import GarbleVerif.Proofs.Util
/-! `last_use_map`: in the final map every operand of a gate is pinned or last used at that gate or a
later one (`LateUse`), and every output is pinned, so `find_out_reg` never releases the register of a
wire that a later gate or the outputs still read. -/
namespace GV
namespace Reg

/-- "`m[a]` is a use at or after `t`, or pinned" -/
def LateUse (m : List LastUse) (a t : Nat) : Prop :=
  m.getD a .never = .pinned ∨ ∃ k, t ≤ k ∧ m.getD a .never = .at k

theorem LateUse.weaken {m a t t'} (h : LateUse m a t) (ht : t' ≤ t) : LateUse m a t' := by
  rcases h with h | ⟨k, hk, h⟩
  · exact Or.inl h
  · exact Or.inr ⟨k, Nat.le_trans ht hk, h⟩

/-- overwriting entries with a value that is itself a late use keeps every late use -/
theorem LateUse.setAll {m : List LastUse} {a t : Nat} (xs : List Nat) {v : LastUse}
    (hv : v = .pinned ∨ ∃ k, t ≤ k ∧ v = .at k) (h : LateUse m a t) :
    LateUse (xs.foldl (fun m x => m.set x v) m) a t := by
  induction xs generalizing m with
  | nil => exact h
  | cons x xs ih =>
    apply ih
    unfold LateUse at *
    rw [getD_set]
    split
    · exact hv
    · exact h

theorem setAll_length {α} (xs : List Nat) (v : α) (m : List α) :
    (xs.foldl (fun m x => m.set x v) m).length = m.length := by
  induction xs generalizing m with
  | nil => rfl
  | cons x xs ih => simp [List.foldl_cons, ih]

theorem setAll_not_mem {α} (xs : List Nat) (v d : α) (m : List α) (a : Nat) (ha : a ∉ xs) :
    (xs.foldl (fun m x => m.set x v) m).getD a d = m.getD a d := by
  induction xs generalizing m with
  | nil => rfl
  | cons x xs ih =>
    simp only [List.foldl_cons]
    simp only [List.mem_cons, not_or] at ha
    rw [ih _ ha.2, getD_set]
    simp [Ne.symm ha.1]

theorem setAll_mem {α} (xs : List Nat) (v d : α) (m : List α) (a : Nat) (ha : a ∈ xs)
    (hl : a < m.length) : (xs.foldl (fun m x => m.set x v) m).getD a d = v := by
  induction xs generalizing m with
  | nil => simp at ha
  | cons x xs ih =>
    rw [List.foldl_cons]
    by_cases hx : a ∈ xs
    · exact ih _ hx (by rwa [List.length_set])
    · obtain rfl : a = x := (List.mem_cons.mp ha).resolve_right hx
      rw [setAll_not_mem _ _ _ _ _ hx, getD_set, if_pos ⟨rfl, hl⟩]

theorem gateOk_operands {gate : Gate} {n : Nat} (h : Circuit.gateOk gate n = true) :
    ∀ a ∈ gateOperands gate, a < n := by
  cases gate <;> simp [Circuit.gateOk, gateOperands] at h ⊢ <;> omega

theorem lastUseGates_length (gs : List Gate) (id : Nat) (m : List LastUse) :
    (lastUseGates gs id m).length = m.length := by
  induction gs generalizing id m with
  | nil => rfl
  | cons g gs ih => simp [lastUseGates, ih, setAll_length]

theorem lastUseGates_late (gs : List Gate) (id : Nat) (m : List LastUse) (a t : Nat) (ht : t ≤ id)
    (h : LateUse m a t) : LateUse (lastUseGates gs id m) a t := by
  induction gs generalizing id m with
  | nil => exact h
  | cons g gs ih =>
    simp only [lastUseGates]
    exact ih (id + 1) _ (Nat.le_succ_of_le ht) (h.setAll _ (Or.inr ⟨id, ht, rfl⟩))

theorem lastUseGates_operand (gs : List Gate) (id : Nat) (m : List LastUse) (j : Nat) (g : Gate)
    (hg : gs[j]? = some g) (a : Nat) (ha : a ∈ gateOperands g) (hl : a < m.length) :
    LateUse (lastUseGates gs id m) a (id + j) := by
  induction gs generalizing id m j with
  | nil => simp at hg
  | cons g0 gs ih =>
    simp only [lastUseGates]
    cases j with
    | zero =>
      cases hg
      exact lastUseGates_late gs (id + 1) _ a id (Nat.le_succ id)
        (Or.inr ⟨id, Nat.le_refl id, setAll_mem _ _ _ m a ha hl⟩)
    | succ j =>
      exact Nat.add_right_comm id 1 j ▸ ih (id + 1) _ j hg (by rw [setAll_length]; exact hl)

theorem foldl_pinned_length (outs : List Nat) (m : List LastUse) :
    (outs.foldl (fun m o => m.set o .pinned) m).length = m.length :=
  setAll_length outs .pinned m

theorem lastUseMap_operand (c : Circuit) (j : Nat) (g : Gate) (hg : c.gates[j]? = some g)
    (a : Nat) (ha : a ∈ gateOperands g) (hl : a < c.wiresLen) :
    LateUse (lastUseMap c) a (c.totalInputs + j) := by
  simp only [lastUseMap]
  exact (lastUseGates_operand c.gates c.totalInputs _ j g hg a ha (by simpa using hl)).setAll _ (Or.inl rfl)

theorem lastUseMap_output (c : Circuit) (o : Nat) (ho : o ∈ c.outputGates) (hl : o < c.wiresLen) :
    (lastUseMap c).getD o .never = .pinned := by
  simp only [lastUseMap]
  exact setAll_mem _ _ _ _ o ho (by rw [lastUseGates_length]; simpa using hl)

end Reg
end GV
