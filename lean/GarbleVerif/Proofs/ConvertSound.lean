import GarbleVerif.Proofs.RegAllocSound
/-! The `Input` instructions load every party's bits in order; assembly of the conversion theorem. -/
namespace GV
namespace Reg
open RCircuit

/-- instructions that write the registers `pos, pos + 1, …` in turn, the `j`-th one the value `val j` whatever the
registers hold, leave exactly these values there (nothing below `pos` is touched: that keeps an earlier write alive) -/
theorem strictInsts_consecutive (ins : List (List Bool)) (is : List Inst) :
    ∀ (val : Nat → Option Bool) (pos : Nat) (regs : List (Option Bool)),
    (∀ j inst, is[j]? = some inst →
      inst.out = pos + j ∧ ∀ regs', strictOp ins regs' inst.op = val j) →
    (∀ j, j < is.length → ∃ b, val j = some b) → pos + is.length ≤ regs.length →
    ∃ regs', strictInsts ins is regs = some regs' ∧
      (∀ j, j < is.length → readReg regs' (pos + j) = val j) ∧
      ∀ r, r < pos → readReg regs' r = readReg regs r := by
  induction is with
  | nil =>
    intro val pos regs _ _ _
    exact ⟨regs, rfl, fun j hj => absurd hj (Nat.not_lt_zero j), fun _ _ => rfl⟩
  | cons inst rest ih =>
    intro val pos regs h hsome hl
    obtain ⟨hout, hop⟩ : inst.out = pos ∧ _ := h 0 inst rfl
    obtain ⟨b, hb⟩ := hsome 0 (Nat.succ_pos _)
    rw [List.length_cons, ← Nat.add_assoc, Nat.add_right_comm] at hl
    have hlt : inst.out < regs.length :=
      hout ▸ Nat.lt_of_lt_of_le (Nat.lt_succ_self pos) (Nat.le_trans (Nat.le_add_right ..) hl)
    obtain ⟨regs', hrun, hnew, hold⟩ := ih (fun j => val (j + 1)) (pos + 1)
      (regs.set inst.out (some b)) (fun j i hj => Nat.add_right_comm pos 1 j ▸ h (j + 1) i hj)
      (fun j hj => hsome (j + 1) (Nat.succ_lt_succ hj)) (by rwa [List.length_set])
    refine ⟨regs', strictInsts_cons_eq_some.mpr ⟨b, by rw [hop, hb], hlt, hrun⟩,
      fun j hj => ?_, fun r hr => ?_⟩
    · cases j with
      | zero => rw [Nat.add_zero, hold _ (Nat.lt_succ_self pos), readReg_set, if_pos ⟨hout, hlt⟩, hb]
      | succ j =>
        rw [← Nat.add_assoc, Nat.add_right_comm]
        exact hnew j (Nat.lt_of_succ_lt_succ hj)
    · rw [hold r (Nat.lt_succ_of_lt hr), readReg_set,
        if_neg fun e => Nat.ne_of_gt hr (hout.symm.trans e.1)]

/-- the `j`-th `Input` instruction writes register `pos + j` and loads the `j`-th input bit -/
theorem inputInsts_getElem? (ins : List (List Bool)) (sizes : List Nat) :
    ∀ (party pos j : Nat) (inst : Inst), (ins.drop party).map List.length = sizes →
    (inputInsts sizes party pos)[j]? = some inst →
    inst.out = pos + j ∧ ∀ regs, strictOp ins regs inst.op = (ins.drop party).flatten[j]? := by
  induction sizes with
  | nil => intro party pos j inst _ h; cases h
  | cons sz rest ih =>
    intro party pos j inst hs h
    cases hd : ins.drop party with
    | nil => rw [hd] at hs; cases hs
    | cons p tail =>
      rw [hd] at hs
      obtain ⟨hsz, hs⟩ := List.cons.inj hs
      have hp : ins[party]? = some p := by rw [← List.head?_drop, hd]; rfl
      have htail : ins.drop (party + 1) = tail := by rw [← List.tail_drop, hd]; rfl
      rw [inputInsts] at h
      rw [List.flatten_cons]
      by_cases hj : j < sz
      · rw [List.getElem?_append_left (by rwa [List.length_map, List.length_range]),
          List.getElem?_map, List.getElem?_range hj] at h
        cases h
        refine ⟨rfl, fun regs => ?_⟩
        rw [List.getElem?_append_left (hsz ▸ hj), strictOp, hp]
        rfl
      · have hle := Nat.le_of_not_lt hj
        rw [List.getElem?_append_right (by rwa [List.length_map, List.length_range]),
          List.length_map, List.length_range] at h
        obtain ⟨h1, h2⟩ := ih (party + 1) (pos + sz) (j - sz) inst (htail ▸ hs) h
        refine ⟨by rw [h1, Nat.add_assoc, Nat.add_sub_cancel' hle], fun regs => ?_⟩
        rw [h2, htail, List.getElem?_append_right (hsz ▸ hle), hsz]

theorem inputInsts_length (sizes : List Nat) (party pos : Nat) :
    (inputInsts sizes party pos).length = sizes.sum := by
  induction sizes generalizing party pos with
  | nil => rfl
  | cons s rest ih => simp [inputInsts, ih]

/-- `st0` of `convert`: the state in which the gate loop starts -/
def initAlloc (c : Circuit) : Alloc :=
  { free := [], next := c.totalInputs,
    wireMap := (List.range c.totalInputs).map some ++ List.replicate c.gates.length none,
    insts := inputInsts c.inputGates 0 0, andOps := 0 }

theorem regOf_init {c : Circuit} {w r : Nat} :
    regOf (initAlloc c) w = some r ↔ w < c.totalInputs ∧ w = r := by
  simp only [regOf, initAlloc, List.getD_eq_getElem?_getD]
  by_cases h : w < c.totalInputs
  · rw [List.getElem?_append_left (by simpa using h)]
    simp [h]
  · rw [List.getElem?_append_right (by simpa using h), List.getElem?_replicate]
    split <;> simp [h]

theorem init_inv0 (c : Circuit) : Inv0 (lastUseMap c) c.wiresLen c.totalInputs (initAlloc c) := by
  refine ⟨by simp [initAlloc, Circuit.wiresLen], ?_, fun w hw _ => ⟨w, regOf_init.mpr ⟨hw, rfl⟩⟩, ?_,
    List.nodup_nil, nofun⟩
  · intro w r h
    obtain ⟨hw, rfl⟩ := regOf_init.mp h
    exact ⟨hw, hw⟩
  · intro w w' r h h'
    exact (regOf_init.mp h).2.trans (regOf_init.mp h').2.symm

/-- after the `Input` instructions register `w` holds input bit `w` -/
theorem inputs_val (c : Circuit) {ins : List (List Bool)} (hs : Circuit.shapeOk c.inputGates ins = true)
    (regs : List (Option Bool)) (hl : c.totalInputs ≤ regs.length) :
    ∃ regs1, strictInsts ins (inputInsts c.inputGates 0 0) regs = some regs1 ∧
      Val (initAlloc c) ins.flatten regs1 := by
  have hfl := Circuit.flatten_length_of_shapeOk hs
  have hlen : (inputInsts c.inputGates 0 0).length = ins.flatten.length :=
    (inputInsts_length ..).trans hfl.symm
  obtain ⟨regs1, hrun, hread, _⟩ := strictInsts_consecutive ins (inputInsts c.inputGates 0 0)
    (fun j => ins.flatten[j]?) 0 regs
    (fun j inst hj => inputInsts_getElem? ins c.inputGates 0 0 j inst (eq_of_beq hs) hj)
    (fun j hj => ⟨ins.flatten[j]'(hlen ▸ hj), List.getElem?_eq_getElem _⟩)
    (by rw [Nat.zero_add, inputInsts_length]; exact hl)
  refine ⟨regs1, hrun, fun w r h => ?_⟩
  obtain ⟨hw, rfl⟩ := regOf_init.mp h
  have hw' : w < ins.flatten.length := hfl ▸ hw
  have := hread w (hlen ▸ hw')
  rw [Nat.zero_add] at this
  exact ⟨_, List.getElem?_eq_getElem hw', this.trans (List.getElem?_eq_getElem hw')⟩

theorem isAnd_sum (gs : List Gate) :
    (gs.map isAnd).sum = (gs.filter fun g => match g with | .and _ _ => true | _ => false).length := by
  induction gs with
  | nil => rfl
  | cons g rest ih =>
    rw [List.map_cons, List.sum_cons, ih]
    cases g
    · exact Nat.zero_add _
    · exact Nat.add_comm ..
    · exact Nat.zero_add _

theorem outputs_sim {stF : Alloc} {ws : List Bool} {regs : List (Option Bool)} (hv : Val stF ws regs)
    {outs rs : List Nat} (h : outs.mapM (fun o => stF.wireMap.getD o none) = some rs) :
    rs.mapM (fun r => readReg regs r) = outs.mapM (fun o => ws[o]?) := by
  induction outs generalizing rs with
  | nil => simp at h; simp [h]
  | cons o os ih =>
    obtain ⟨r, rs', hr, hrs, rfl⟩ := mapM_cons_eq_some.mp h
    obtain ⟨v, hw, hrd⟩ := hv o r hr
    simp only [List.mapM_cons, hw, hrd, ih hrs]

/-- **the conversion**: it succeeds; the instructions are the `Input` instructions followed by one
instruction per gate, `em`; the strict evaluation of the result returns the outputs of `c` -/
theorem convert_spec (c : Circuit) (hv : c.validate = .ok ()) :
    ∃ r em, convert c = some r ∧ r.inputRegs = c.inputGates ∧
      r.insts = inputInsts c.inputGates 0 0 ++ em ∧ em.length = c.gates.length ∧
      (∀ inst ∈ em, notInput inst.op) ∧ r.andOps = c.andGates ∧ r.maxRegCount ≤ c.wiresLen ∧
      r.outputRegs.length = c.outputGates.length ∧
      ∀ ins, Circuit.shapeOk c.inputGates ins = true → r.eval? ins = c.eval? ins := by
  obtain ⟨_, hg, _, hout, _⟩ := Circuit.validate_ok hv
  obtain ⟨stF, em, hcF, hiF, hins, hlen, hni, hnF, hnF', haF, sim⟩ :=
    convertGates_spec c.gates (init_inv0 c) (Nat.le_refl _) hg fun j gate hj a ha =>
      lastUseMap_operand c j gate hj a ha (Nat.lt_trans
        (gateOk_operands (Circuit.validateGates_eq_ok.mp hg j gate hj) a ha)
        (Nat.add_lt_add_left (List.getElem?_eq_some_iff.mp hj).1 _))
  -- every output wire is pinned, hence still mapped at the end
  obtain ⟨rs, hrs, hrl⟩ := mapM_eq_some_of_forall (f := fun o => stF.wireMap.getD o none)
    (l := c.outputGates) fun o ho =>
      hiF.live o (hout o ho) (Or.inl (lastUseMap_output c o ho (hout o ho)))
  refine ⟨⟨c.inputGates, stF.insts, stF.next, rs, stF.andOps⟩, em, ?_, rfl, hins, hlen, hni, ?_, hnF',
    hrl, fun ins hs => ?_⟩
  · simp only [initAlloc] at hcF
    simp only [convert, hcF, hrs]
  · rw [haF, isAnd_sum]
    exact Nat.zero_add _
  · obtain ⟨regs1, h1, hval1⟩ := inputs_val c hs (List.replicate stF.next none)
      (by simp only [List.length_replicate]; exact hnF)
    obtain ⟨ws', regs', heg, hst, hvF⟩ := sim ins ins.flatten regs1
      (Circuit.flatten_length_of_shapeOk hs) hval1 (by simp [strictInsts_length _ h1])
    simp only [RCircuit.eval?, Circuit.eval?, hs, Bool.not_true, Bool.false_eq_true, if_false,
      show stF.insts = inputInsts c.inputGates 0 0 ++ em from hins, strictInsts_append, h1, hst, heg,
      Option.bind_some, outputs_sim hvF hrs]

end Reg
end GV
