import GarbleVerif.Proofs.Compact
/-! The mark phase of `remove_unused_gates`: the backward sweep yields a marking that
contains the roots and is closed under operands. -/
namespace GV
namespace Builder

theorem markWire_length (shift : Nat) (need : List Bool) (w : Nat) :
    (markWire shift need w).length = need.length := by
  unfold markWire; split
  · exact List.length_set
  · rfl

theorem getD_markWire (shift : Nat) (need : List Bool) (w i : Nat) :
    (markWire shift need w).getD i false = true ↔ need.getD i false = true ∨ (shift + i = w ∧ i < need.length) := by
  unfold markWire
  by_cases hs : shift ≤ w
  · rw [if_pos hs, getD_set]
    have e : (w - shift = i ∧ w - shift < need.length) ↔ (shift + i = w ∧ i < need.length) :=
      ⟨fun ⟨h1, h2⟩ => h1 ▸ ⟨Nat.add_sub_cancel' hs, h2⟩,
        fun ⟨h1, h2⟩ => by rw [← h1, Nat.add_sub_cancel_left]; exact ⟨rfl, h2⟩⟩
    split
    · exact ⟨fun _ => Or.inr (e.mp ‹_›), fun _ => rfl⟩
    · exact ⟨Or.inl, fun h => h.resolve_right fun h' => absurd (e.mpr h') ‹_›⟩
  · rw [if_neg hs]; exact ⟨Or.inl, fun h => h.resolve_right fun h' => hs (by omega)⟩

/-- what the mark step at gate `k` does to the marking -/
structure StepSpec (shift : Nat) (g : BGate) (k : Nat) (need need' : List Bool) : Prop where
  len : need'.length = need.length
  mono : ∀ i, need.getD i false = true → need'.getD i false = true
  high : ∀ i, k ≤ i → need'.getD i false = true → need.getD i false = true
  ops : need.getD k false = true → ∀ o, opsOf g o → shift ≤ o → need'.getD (o - shift) false = true

theorem markStep_spec (shift : Nat) (gates : List BGate) (need : List Bool) (k : Nat) (g : BGate)
    (hk : k < need.length) (hg : gates[k]? = some g) (hops : opsLt g (shift + k)) :
    StepSpec shift g k need (markStep shift gates need k) := by
  obtain ⟨h1, h2⟩ := opsLt_gateOps hops
  unfold markStep
  split
  · simp only [hg]
    refine ⟨by rw [markWire_length, markWire_length], fun i hi => ?_, fun i hi h => ?_, fun _ o ho hso => ?_⟩
    · exact (getD_markWire ..).mpr (.inl ((getD_markWire ..).mpr (.inl hi)))
    · -- the operands are gates before `k`
      rcases (getD_markWire ..).mp h with h | h
      · rcases (getD_markWire ..).mp h with h | h
        · exact h
        · omega
      · omega
    · rw [getD_markWire, getD_markWire, markWire_length]
      rcases (opsOf_gateOps g o).mp ho with rfl | rfl
      · exact .inl (.inr ⟨Nat.add_sub_cancel' hso, Nat.lt_trans ((Nat.sub_lt_iff_lt_add' hso).mpr h1) hk⟩)
      · exact .inr ⟨Nat.add_sub_cancel' hso, Nat.lt_trans ((Nat.sub_lt_iff_lt_add' hso).mpr h2) hk⟩
  · rename_i hn
    exact ⟨rfl, fun _ h => h, fun _ _ h => h, fun h => absurd h hn⟩

/-- closedness above `k` -/
def ClosedFrom (shift : Nat) (gates : List BGate) (k : Nat) (need : List Bool) : Prop :=
  ∀ p g, k ≤ p → gates[p]? = some g → need.getD p false = true →
    ∀ o, opsOf g o → shift ≤ o → need.getD (o - shift) false = true

/-- sweeping gates `k-1 … 0`: nothing is unmarked, and a marking closed above `k` becomes closed everywhere -/
theorem sweep_spec (shift : Nat) (gates : List BGate)
    (hwf : ∀ i g, gates[i]? = some g → opsLt g (shift + i))
    (k : Nat) (need : List Bool) (hlen : need.length = gates.length) (hk : k ≤ gates.length)
    (hc : ClosedFrom shift gates k need) :
    (sweep shift gates k need).length = gates.length ∧
    (∀ i, need.getD i false = true → (sweep shift gates k need).getD i false = true) ∧
    ClosedFrom shift gates 0 (sweep shift gates k need) := by
  induction k generalizing need with
  | zero => exact ⟨hlen, fun _ h => h, hc⟩
  | succ k ih =>
    have hg : gates[k]? = some gates[k] := List.getElem?_eq_getElem hk
    have sp := markStep_spec shift gates need k gates[k] (hlen ▸ hk) hg (hwf k _ hg)
    have hc' : ClosedFrom shift gates k (markStep shift gates need k) := by
      intro p g hp hgp hn o ho hso
      have hn' := sp.high p hp hn
      rcases Nat.lt_or_ge k p with hlt | hge
      · exact sp.mono _ (hc p g hlt hgp hn' o ho hso)
      · obtain rfl : p = k := Nat.le_antisymm hge hp
        obtain rfl : gates[p] = g := Option.some.inj (hg.symm.trans hgp)
        exact sp.ops hn' o ho hso
    obtain ⟨l, m, c⟩ := ih (markStep shift gates need k) (by rw [sp.len, hlen]) (Nat.le_of_succ_le hk) hc'
    exact ⟨l, fun i hi => m i (sp.mono i hi), c⟩

theorem foldl_markWire_length (shift : Nat) (roots : List Nat) (need : List Bool) :
    (roots.foldl (markWire shift) need).length = need.length := by
  induction roots generalizing need with
  | nil => rfl
  | cons r rs ih => rw [List.foldl_cons, ih, markWire_length]

theorem getD_foldl_markWire (shift : Nat) (roots : List Nat) (need : List Bool) (i : Nat) :
    (roots.foldl (markWire shift) need).getD i false = true ↔
      need.getD i false = true ∨ (i < need.length ∧ shift + i ∈ roots) := by
  induction roots generalizing need with
  | nil => simp
  | cons r rs ih =>
    rw [List.foldl_cons, ih, getD_markWire, markWire_length, List.mem_cons, and_or_left, or_assoc,
      and_comm (a := i < need.length) (b := shift + i = r)]

/-- **the marking is closed under operands and contains the roots** -/
theorem mark_spec (shift : Nat) (gates : List BGate) (roots : List Nat)
    (hwf : ∀ i g, gates[i]? = some g → opsLt g (shift + i)) :
    (mark shift gates roots).length = gates.length ∧
    Closed shift (mark shift gates roots) gates ∧
    ∀ r, r ∈ roots → shift ≤ r → r < shift + gates.length →
      (mark shift gates roots).getD (r - shift) false = true := by
  have hl := foldl_markWire_length shift roots (List.replicate gates.length false)
  rw [List.length_replicate] at hl
  obtain ⟨l, m, c⟩ := sweep_spec shift gates hwf gates.length
    (roots.foldl (markWire shift) (List.replicate gates.length false)) hl (Nat.le_refl _)
    (fun p g hp hgp => by rw [List.getElem?_eq_none hp] at hgp; cases hgp)
  refine ⟨l, fun p g hgp hu o ho hso => ?_, fun r hr h1 h2 => ?_⟩
  · exact c p g (Nat.zero_le _) hgp hu o (by cases g <;> exact ho) hso
  · refine m _ ((getD_foldl_markWire ..).mpr (.inr ⟨by rw [List.length_replicate]; omega, ?_⟩))
    rwa [Nat.add_sub_cancel' h1]

end Builder
end GV
