import GarbleVerif.Model.BitSem
import GarbleVerif.Proofs.BitOps
import GarbleVerif.Proofs.ArithSMul
import GarbleVerif.Proofs.ArithShift
import GarbleVerif.Proofs.ArithConstMul
import GarbleVerif.Proofs.ArithLen
/-! `*`, `/`, `%`, `<<`, `>>` of the compiler model on encodings of values (all widths): the exact result, and
the panic conditions exactly when the source operation fails. -/
namespace GV
namespace Bit
open Arith

theorem ite_length (c : Bool) (l1 l2 : List Bool) (n : Nat) (h1 : l1.length = n) (h2 : l2.length = n) :
    (if c = true then l1 else l2).length = n := by
  cases c <;> simp [h1, h2]

theorem mul_checked (k : IntTy) (x y : List Bool) (hx : x.length = k.bits) (hy : y.length = k.bits) :
    Checked k (valOf k.signed x * valOf k.signed y) (mul x y k.signed) := by
  have hlen : x.length = y.length := hx.trans hy.symm
  cases hs : k.signed
  · obtain ⟨hl, hv, hf⟩ := mul_unsigned x y hlen (by rw [hx]; exact bits_pos k)
    rw [hx] at hl hf
    exact Checked.unsigned hs (Int.natCast_mul _ _).symm hl hv hf
  · obtain ⟨a, xr, rfl, hxr⟩ := cons_of_bits hx
    obtain ⟨b, yr, rfl, hyr⟩ := cons_of_bits hy
    obtain ⟨hv, hf⟩ := mul_signed a b xr yr (hxr.trans hyr.symm)
    rw [hxr] at hf
    exact Checked.signed hs ((mul_signed_length a b xr yr (hxr.trans hyr.symm)).trans hx) hv hf

theorem binop_mul (k : IntTy) (a b : Int) (ha : k.inRange a = true) (hb : k.inRange b = true) :
    (k.inRange (a * b) = true →
      binop .mul k.signed k.signed k.signed (enc k a) (enc k b) = (enc k (a * b), [(false, .overflow)])) ∧
    (k.inRange (a * b) = false →
      ∃ bits, binop .mul k.signed k.signed k.signed (enc k a) (enc k b) = (bits, [(true, .overflow)])) := by
  have h := mul_checked k _ _ (enc_length k a) (enc_length k b)
  rw [valOf_enc k a ha, valOf_enc k b hb] at h
  have hops := binop_operands k a b k.signed k.signed
  unfold binop
  simp only [hops.1, hops.2]
  exact h.binop

theorem allZero_enc (k : IntTy) (b : Int) (hb : k.inRange b = true) : allZero (enc k b) = decide (b = 0) := by
  rw [allZero_eq]
  exact decide_eq_decide.mpr (by rw [← valOf_eq_zero k.signed, valOf_enc k b hb])

/-- the divider on bit lists of the type's width: the quotient rounded towards zero — among the values of a type only
`MIN / -1` is not one of them —, and the remainder, which has the sign of the dividend and is always a value of the type -/
theorem divmod_valOf (k : IntTy) (x y : List Bool) (hx : x.length = k.bits) (hy : y.length = k.bits)
    (hy0 : valOf k.signed y ≠ 0) :
    Checked k (Int.tdiv (valOf k.signed x) (valOf k.signed y))
      (if k.signed then ((sdiv x y).1, isMin x && allOnes y) else ((udiv x y).1, false)) ∧
    (if k.signed then sdiv x y else udiv x y).2.length = k.bits ∧
    valOf k.signed (if k.signed then sdiv x y else udiv x y).2 = Int.tmod (valOf k.signed x) (valOf k.signed y) := by
  have hlen : x.length = y.length := hx.trans hy.symm
  cases hs : k.signed
  · rw [hs] at hy0
    have hpos : 0 < toNat y := Nat.pos_of_ne_zero fun h => hy0 ((valOf_eq_zero false y).mpr h)
    obtain ⟨hq, hr⟩ := udiv_div_mod x y hlen hpos
    rw [if_neg Bool.false_ne_true, if_neg Bool.false_ne_true]
    refine ⟨Checked.pair ((udiv_len x y hlen).1.trans hx) (fun _ => ?_) (fun h => by cases h),
      (udiv_len x y hlen).2.trans hx, ?_⟩
    · rw [hs]
      show ((toNat (udiv x y).1 : Nat) : Int) = _
      rw [hq]
      exact (Int.ofNat_tdiv _ _).symm
    · show ((toNat (udiv x y).2 : Nat) : Int) = _
      rw [hr]
      exact (Int.ofNat_tmod _ _).symm
  · obtain ⟨a, xr, rfl, hxr⟩ := cons_of_bits hx
    obtain ⟨b, yr, rfl, hyr⟩ := cons_of_bits hy
    rw [hs] at hy0
    obtain ⟨hq, hr⟩ := sdiv_spec' a b xr yr (hxr.trans hyr.symm) hy0
    rw [if_pos rfl, if_pos rfl]
    refine ⟨Checked.pair ((sdiv_len (a :: xr) (b :: yr) hlen).1.trans hx) (fun hf => ?_) (fun hf => ?_),
      (sdiv_len (a :: xr) (b :: yr) hlen).2.trans hx, hr⟩
    · rw [hs]
      exact hq fun ⟨h1, h2⟩ => by
        simp [(isMin_iff a xr).mpr h1, (allOnes_iff b yr).mpr h2] at hf
    · obtain ⟨h1, h2⟩ := Bool.and_eq_true_iff.mp hf
      rw [isMin_iff, hxr] at h1
      rw [allOnes_iff] at h2
      show k.inRange (Int.tdiv (toInt (a :: xr)) (toInt (b :: yr))) = false
      rw [h1, h2, Int.tdiv_neg, Int.tdiv_one, Int.neg_neg]
      exact Bool.eq_false_iff.mpr fun hr => Int.lt_irrefl _ ((inRange_signed hs _).mp hr).2

/-- the panic conditions of `/`: a zero divisor first, then the overflow of the quotient -/
theorem div_panics {k : IntTy} {V : Int} {r : List Bool} {f : Bool} (b : Int) (h : b ≠ 0 → Checked k V (r, f)) :
    (b = 0 → firstOf [(decide (b = 0), PanicKind.divByZero), (f, .overflow)] = some .divByZero) ∧
    (b ≠ 0 → k.inRange V = true →
      r = enc k V ∧ firstOf [(decide (b = 0), PanicKind.divByZero), (f, .overflow)] = none) ∧
    (b ≠ 0 → k.inRange V = false →
      firstOf [(decide (b = 0), PanicKind.divByZero), (f, .overflow)] = some .overflow) := by
  refine ⟨fun h0 => by simp [firstOf, kindOf, h0], fun hne hr => ?_, fun hne hr => ?_⟩
  · obtain ⟨rfl, rfl⟩ := Prod.mk.inj ((h hne).eq_enc.1 hr)
    simp [firstOf, hne]
  · have hf : f = true := (h hne).eq_enc.2 hr
    simp [firstOf, kindOf, hne, hf]

/-- `/`: the first panic is `.divByZero` for a zero divisor, `.overflow` for `MIN / -1`, none otherwise, and then
the bits are the encoding of the quotient rounded towards zero -/
theorem binop_div (k : IntTy) (a b : Int) (ha : k.inRange a = true) (hb : k.inRange b = true) :
    let r := binop .div k.signed k.signed k.signed (enc k a) (enc k b)
    (b = 0 → firstOf r.2 = some .divByZero) ∧
    (b ≠ 0 → k.inRange (Int.tdiv a b) = true → r.1 = enc k (Int.tdiv a b) ∧ firstOf r.2 = none) ∧
    (b ≠ 0 → k.inRange (Int.tdiv a b) = false → firstOf r.2 = some .overflow) := by
  have hops := binop_operands k a b k.signed k.signed
  have hd := fun hne : b ≠ 0 =>
    (divmod_valOf k _ _ (enc_length k a) (enc_length k b) (by rwa [valOf_enc k b hb])).1
  rw [valOf_enc k a ha, valOf_enc k b hb] at hd
  unfold binop
  simp only [hops.1, hops.2, allZero_enc k b hb]
  cases hs : k.signed
  · simp only [hs, Bool.false_eq_true, if_false] at hd ⊢
    exact div_panics b hd
  · simp only [hs, if_true] at hd ⊢
    exact div_panics b hd

/-- `%`: `.divByZero` for a zero divisor, otherwise the encoding of the remainder (sign of the dividend), which is
always in range -/
theorem binop_rem (k : IntTy) (a b : Int) (ha : k.inRange a = true) (hb : k.inRange b = true) :
    let r := binop .mod k.signed k.signed k.signed (enc k a) (enc k b)
    (b = 0 → firstOf r.2 = some .divByZero) ∧
    (b ≠ 0 → k.inRange (Int.tmod a b) = true ∧ r.1 = enc k (Int.tmod a b) ∧ firstOf r.2 = none) := by
  have hops := binop_operands k a b k.signed k.signed
  unfold binop
  simp only [hops.1, hops.2, allZero_enc k b hb, firstOf, kindOf]
  refine ⟨fun h0 => by simp [h0], fun hne => ?_⟩
  obtain ⟨-, hl, hv⟩ := divmod_valOf k _ _ (enc_length k a) (enc_length k b) (by rwa [valOf_enc k b hb])
  rw [valOf_enc k a ha, valOf_enc k b hb] at hv
  obtain ⟨hr, he⟩ := enc_of_valOf hl hv
  exact ⟨hr, he, by simp [hne]⟩

theorem bits_mem (k : IntTy) : k.bits ∈ [8, 16, 32, 64] := by cases k <;> decide

theorem binop_shl_eq (sx sy sr : Bool) (x y : List Bool) :
    binop .shl sx sy sr x y = ((shift true sx x y).1, [((shift true sx x y).2, .overflow)]) := rfl

theorem binop_shr_eq (sx sy sr : Bool) (x y : List Bool) :
    binop .shr sx sy sr x y = ((shift false sx x y).1, [((shift false sx x y).2, .overflow)]) := rfl

/-- both shifts on encodings: the overflow flag, and `shift_spec` read for the amount `s` -/
theorem shift_enc (left : Bool) (k : IntTy) (a s : Int) (hs : IntTy.u8.inRange s = true) :
    let r := shift left k.signed (enc k a) (enc .u8 s)
    r.1.length = k.bits ∧
    ((s < 0 ∨ s ≥ k.bits) → firstOf [(r.2, PanicKind.overflow)] = some .overflow) ∧
    (¬ (s < 0 ∨ s ≥ k.bits) → firstOf [(r.2, PanicKind.overflow)] = none ∧
      (left = true → toNat r.1 = (toNat (enc k a) * 2 ^ s.toNat) % 2 ^ k.bits) ∧
      (left = false → valOf k.signed r.1 = valOf k.signed (enc k a) / (2 : Int) ^ s.toNat)) := by
  obtain ⟨hf, hv⟩ := shift_spec left k.signed (enc k a) (enc .u8 s) (by rw [enc_length]; exact bits_mem k)
    (enc_length .u8 s)
  -- the amount is a natural number `t`, the value of its wires
  obtain ⟨t, rfl⟩ := Int.eq_ofNat_of_zero_le ((inRange_unsigned (k := .u8) rfl s).mp hs).1
  have ht : toNat (enc .u8 (t : Int)) = t := Int.ofNat_inj.mp (toNat_enc_unsigned .u8 t rfl hs)
  rw [enc_length, ht] at hf hv
  rw [Int.toNat_natCast]
  refine ⟨(shift_length _ _ _ _).trans (enc_length k a), fun h => ?_, fun h => ?_⟩
  · rw [hf.mpr (by omega)]; rfl
  · have hlt : t < k.bits := by omega
    have hno : (shift left k.signed (enc k a) (enc .u8 (t : Int))).2 = false :=
      Bool.eq_false_iff.mpr fun hc => Nat.not_le_of_lt hlt (hf.mp hc)
    rw [hno]
    exact ⟨rfl, hv hlt⟩

/-- `<<`: overflow exactly when the amount is at least the width, otherwise the encoding of `a · 2^s` wrapped to
the type -/
theorem binop_shl (k : IntTy) (a s : Int) (ha : k.inRange a = true) (hs : IntTy.u8.inRange s = true) :
    let r := binop .shl k.signed false k.signed (enc k a) (enc .u8 s)
    ((s < 0 ∨ s ≥ k.bits) → firstOf r.2 = some .overflow) ∧
    (¬ (s < 0 ∨ s ≥ k.bits) → r.1 = enc k (Src.wrapTo k (a * (2 : Int) ^ s.toNat)) ∧ firstOf r.2 = none) := by
  obtain ⟨hl, hov, hok⟩ := shift_enc true k a s hs
  simp only [binop_shl_eq]
  refine ⟨hov, fun h => ?_⟩
  obtain ⟨hno, hv, _⟩ := hok h
  refine ⟨?_, hno⟩
  -- congruent modulo `2^bits`: the shifted pattern, the shifted value, and what `wrapTo` makes of it
  rw [enc_wrapTo]
  apply eq_intToBits_of_emod _ k.bits _ hl
  rw [hv rfl]
  push_cast
  rw [toNat_enc, Int.mul_emod, Int.emod_emod, ← Int.mul_emod]

/-- `>>`: overflow exactly when the amount is at least the width, otherwise the encoding of `a / 2^s` rounded down -/
theorem binop_shr (k : IntTy) (a s : Int) (ha : k.inRange a = true) (hs : IntTy.u8.inRange s = true) :
    let r := binop .shr k.signed false k.signed (enc k a) (enc .u8 s)
    ((s < 0 ∨ s ≥ k.bits) → firstOf r.2 = some .overflow) ∧
    (¬ (s < 0 ∨ s ≥ k.bits) → k.inRange (a / (2 : Int) ^ s.toNat) = true ∧
      r.1 = enc k (a / (2 : Int) ^ s.toNat) ∧ firstOf r.2 = none) := by
  obtain ⟨hl, hov, hok⟩ := shift_enc false k a s hs
  simp only [binop_shr_eq]
  refine ⟨hov, fun h => ?_⟩
  obtain ⟨hno, _, hv⟩ := hok h
  have hv := hv rfl
  rw [valOf_enc k a ha] at hv
  obtain ⟨hr, he⟩ := enc_of_valOf hl hv
  exact ⟨hr, he, hno⟩

theorem constMul_checked (k : IntTy) (y : List Bool) (hy : y.length = k.bits) (n : Nat) (hn : 1 ≤ n) :
    Checked k ((n : Int) * valOf k.signed y) (constMul y k.signed n false) := by
  cases hs : k.signed
  · obtain ⟨hl, hv, hf⟩ := constMul_unsigned y n hn
    rw [hy] at hl hf
    exact Checked.unsigned hs (Int.natCast_mul _ _).symm hl hv hf
  · obtain ⟨b, yr, rfl, hyr⟩ := cons_of_bits hy
    obtain ⟨hl, hv, hf⟩ := constMul_signed_pos b yr n hn
    rw [hyr] at hf
    exact Checked.signed hs (hl.trans hy) hv hf

theorem constMul_enc (k : IntTy) (v : Int) (n : Nat) (hv : k.inRange v = true) (hn : 1 ≤ n) :
    let r := constMul (enc k v) k.signed n false
    (k.inRange ((n : Int) * v) = true → r = (enc k ((n : Int) * v), false)) ∧
    (k.inRange ((n : Int) * v) = false → r.2 = true) := by
  have h := constMul_checked k _ (enc_length k v) n hn
  rw [valOf_enc k v hv] at h
  exact h.eq_enc

end Bit
end GV
