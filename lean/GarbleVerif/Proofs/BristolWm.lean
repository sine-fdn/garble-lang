import GarbleVerif.Model.Bristol
/-!
# The wire renumbering of the Bristol export is a bijection with the outputs at the end
-/
namespace GV
namespace Bristol

/-- number of output wires among `[TI, s)`: the counter of `wiresMap.go` on reaching wire `s` -/
def ocf (outs : List Nat) (TI : Nat) : Nat → Nat
  | 0 => 0
  | s + 1 => ocf outs TI s + (if TI ≤ s ∧ s ∈ outs then 1 else 0)

theorem ocf_le (outs : List Nat) (TI s : Nat) : ocf outs TI s ≤ s - TI := by
  induction s with
  | zero => exact Nat.zero_le _
  | succ s ih =>
    rw [ocf]
    split
    · next h => rw [Nat.succ_sub h.1]; exact Nat.succ_le_succ ih
    · exact Nat.le_trans ih (Nat.sub_le_sub_right (Nat.le_succ s) TI)

/-- the non-outputs keep their order when each moves down by the outputs before it -/
theorem sub_ocf_lt {outs : List Nat} {TI i j : Nat} (hi : i ∉ outs) (hij : i < j) :
    i - ocf outs TI i < j - ocf outs TI j := by
  induction hij with
  | refl =>
    rw [ocf, if_neg (fun h => hi h.2), Nat.add_zero,
      Nat.succ_sub (Nat.le_trans (ocf_le outs TI i) (Nat.sub_le i TI))]
    exact Nat.lt_succ_self _
  | step _ ih =>
    rw [ocf]
    split
    · rwa [Nat.succ_sub_succ]
    · exact Nat.lt_of_lt_of_le ih (Nat.sub_le_sub_right (Nat.le_succ _) _)

theorem ocf_cons {o TI : Nat} {os : List Nat} (hTI : TI ≤ o) (ho : o ∉ os) (N : Nat) :
    ocf (o :: os) TI N = ocf os TI N + if o < N then 1 else 0 := by
  induction N with
  | zero => rfl
  | succ N ih =>
    rw [ocf, ocf, ih, Nat.add_right_comm]
    by_cases h : N = o
    · subst h; simp [hTI, ho]
    · simp [h, Nat.lt_succ_iff_lt_or_eq, Ne.symm h]

theorem ocf_eq_length {outs : List Nat} {TI N : Nat} (hnd : outs.Nodup)
    (hr : ∀ o ∈ outs, TI ≤ o ∧ o < N) : ocf outs TI N = outs.length := by
  induction outs with
  | nil =>
    induction N with
    | zero => rfl
    | succ N ih => simpa [ocf] using ih
  | cons o os ih =>
    rw [List.nodup_cons] at hnd
    rw [List.forall_mem_cons] at hr
    rw [ocf_cons hr.1.1 hnd.1, ih hnd.2 hr.2, if_pos hr.1.2, List.length_cons]

theorem outPos_go_not_mem (w : Nat) (l : List Nat) (i : Nat) (acc : Option Nat) (h : w ∉ l) :
    outPos.go w l i acc = acc := by
  induction l generalizing i acc with
  | nil => rfl
  | cons o rest ih =>
    rw [List.mem_cons, not_or] at h
    rw [outPos.go, ih _ _ h.2, if_neg (by simpa using Ne.symm h.1)]

/-- a member is found, at one of its positions -/
theorem outPos_go_mem {w : Nat} {l : List Nat} (i : Nat) (acc : Option Nat) (h : w ∈ l) :
    ∃ k, ∃ hk : k < l.length, l[k] = w ∧ outPos.go w l i acc = some (i + k) := by
  induction l generalizing i acc with
  | nil => cases h
  | cons o rest ih =>
    rw [outPos.go]
    by_cases hr : w ∈ rest
    · obtain ⟨k, hk, e, hp⟩ := ih (i + 1) _ hr
      exact ⟨k + 1, Nat.succ_lt_succ hk, e, by rw [hp, Nat.add_right_comm]; rfl⟩
    · obtain rfl : w = o := (List.mem_cons.mp h).resolve_right hr
      refine ⟨0, Nat.zero_lt_succ _, rfl, ?_⟩
      rw [outPos_go_not_mem _ _ _ _ hr, if_pos (beq_self_eq_true _)]; rfl

theorem outPos_getElem (outs : List Nat) (hnd : outs.Nodup) (k : Nat) (hk : k < outs.length) :
    outPos outs outs[k] = some k := by
  obtain ⟨k', hk', e, hp⟩ := outPos_go_mem 0 none (List.getElem_mem hk)
  rw [outPos, hp, (List.getElem_inj hnd).mp e, Nat.zero_add]

theorem outPos_not_mem (outs : List Nat) (w : Nat) (h : w ∉ outs) : outPos outs w = none :=
  outPos_go_not_mem _ _ _ _ h

theorem outPos_mem (outs : List Nat) (hnd : outs.Nodup) (w : Nat) (h : w ∈ outs) :
    ∃ k, ∃ hk : k < outs.length, outs[k] = w ∧ outPos outs w = some k := by
  obtain ⟨k, hk, rfl⟩ := List.getElem_of_mem h
  exact ⟨k, hk, rfl, outPos_getElem outs hnd k hk⟩

/-- entry `i` of `wiresMap` (`wiresMap_eq`) -/
def wmVal (TI TW : Nat) (outs : List Nat) (i : Nat) : Nat :=
  if i < TI then i else
  match outPos outs i with
  | some idx => TW - outs.length + idx
  | none => i - ocf outs TI i

theorem wiresMap_go_eq (TI TW : Nat) (outs : List Nat) (n s : Nat) :
    wiresMap.go TI TW outs (List.range' s n) (ocf outs TI s) = (List.range' s n).map (wmVal TI TW outs) := by
  induction n generalizing s with
  | zero => rfl
  | succ n ih =>
    rw [List.range'_succ, wiresMap.go, List.map_cons, wmVal, ← ih, ocf]
    -- the tail is now a call of `wiresMap.go` on both sides, and the two counters agree in each case
    by_cases h1 : s < TI
    · simp [h1, Nat.not_le_of_lt h1]
    · by_cases hm : s ∈ outs
      · obtain ⟨k, -, -, hp⟩ := outPos_go_mem 0 none hm
        simp [h1, hm, outPos, hp, Nat.le_of_not_lt h1]
      · simp [h1, hm, outPos_not_mem outs s hm]

theorem wiresMap_eq (TI TW : Nat) (outs : List Nat) :
    wiresMap TI TW outs = (List.range TW).map (wmVal TI TW outs) := by
  unfold wiresMap
  rw [List.range_eq_range']
  exact wiresMap_go_eq TI TW outs TW 0

/-- what the import proof needs to know about the renumbering `f`. No proof uses the field `non_outs`: it
completes the description of the renumbering in the statement of `C11_export_wellformed`. -/
structure WmOK (TI TW : Nat) (outs : List Nat) (f : Nat → Nat) : Prop where
  inputs : ∀ i, i < TI → f i = i
  range : ∀ i, TI ≤ i → i < TW → TI ≤ f i ∧ f i < TW
  outs_at : ∀ k (hk : k < outs.length), f outs[k] = TW - outs.length + k
  non_outs : ∀ i, TI ≤ i → i < TW → i ∉ outs → f i < TW - outs.length
  inj : ∀ i j, i < TW → j < TW → f i = f j → i = j
  outs_le : outs.length ≤ TW - TI

theorem wmVal_getElem {TI TW : Nat} {outs : List Nat} (hnd : outs.Nodup) {k : Nat}
    (hk : k < outs.length) (h : TI ≤ outs[k]) :
    wmVal TI TW outs outs[k] = TW - outs.length + k := by
  simp only [wmVal, if_neg (Nat.not_lt_of_le h), outPos_getElem outs hnd k hk]

/-- also for an input, which no output precedes -/
theorem wmVal_of_not_mem {TI TW i : Nat} {outs : List Nat} (hm : i ∉ outs) :
    wmVal TI TW outs i = i - ocf outs TI i := by
  rw [wmVal, outPos_not_mem outs i hm]
  split
  · next h =>
    have := ocf_le outs TI i
    rw [Nat.sub_eq_zero_of_le (Nat.le_of_lt h), Nat.le_zero] at this
    rw [this, Nat.sub_zero]
  · rfl

/-- Two classes of wires with disjoint images: those that are not outputs move down by the outputs
before them, which keeps their order, and stay below `TW - outs.length`; the outputs follow in
output order. -/
theorem wmVal_class {TI TW : Nat} {outs : List Nat} (hnd : outs.Nodup)
    (hr : ∀ o ∈ outs, TI ≤ o ∧ o < TW) {i : Nat} (hi : i < TW) :
    (i ∉ outs ∧ wmVal TI TW outs i < TW - outs.length) ∨
    (∃ k, ∃ hk : k < outs.length, outs[k] = i ∧ wmVal TI TW outs i = TW - outs.length + k) := by
  by_cases hm : i ∈ outs
  · obtain ⟨k, hk, rfl⟩ := List.getElem_of_mem hm
    exact .inr ⟨k, hk, rfl, wmVal_getElem hnd hk (hr _ hm).1⟩
  · have hlt := sub_ocf_lt (TI := TI) hm hi
    rw [ocf_eq_length hnd hr, ← wmVal_of_not_mem (TW := TW) hm] at hlt
    exact .inl ⟨hm, hlt⟩

theorem wmVal_ok (TI TW : Nat) (outs : List Nat) (hTI : TI ≤ TW) (hnd : outs.Nodup)
    (hr : ∀ o ∈ outs, TI ≤ o ∧ o < TW) : WmOK TI TW outs (wmVal TI TW outs) := by
  have hle : outs.length ≤ TW - TI := ocf_eq_length hnd hr ▸ ocf_le outs TI TW
  have hL : outs.length ≤ TW := Nat.le_trans hle (Nat.sub_le ..)
  refine ⟨fun i hi => if_pos hi, ?_, fun k hk => wmVal_getElem hnd hk (hr _ (List.getElem_mem hk)).1,
    ?_, ?_, hle⟩
  · intro i h1 h2
    rcases wmVal_class hnd hr h2 with ⟨a, b⟩ | ⟨k, hk, -, a⟩
    · rw [wmVal_of_not_mem a] at b ⊢
      -- `TI ≤ i - ocf i` because `ocf i ≤ i - TI` (`ocf_le`)
      exact ⟨Nat.le_sub_of_add_le (Nat.add_le_of_le_sub' h1 (ocf_le outs TI i)),
        Nat.lt_of_lt_of_le b (Nat.sub_le ..)⟩
    · rw [a]
      -- `TI ≤ TW - outs.length` because `outs.length ≤ TW - TI` (`hle`)
      exact ⟨Nat.le_trans (Nat.le_sub_of_add_le (Nat.add_le_of_le_sub' hTI hle)) (Nat.le_add_right ..),
        Nat.lt_of_lt_of_eq (Nat.add_lt_add_left hk _) (Nat.sub_add_cancel hL)⟩
  · intro i _ h2 h3
    rcases wmVal_class hnd hr h2 with ⟨-, b⟩ | ⟨k, hk, rfl, -⟩
    · exact b
    · exact absurd (List.getElem_mem hk) h3
  · intro i j hi hj hij
    rcases wmVal_class hnd hr hi with ⟨a1, a2⟩ | ⟨k, hk, rfl, a2⟩ <;>
    rcases wmVal_class hnd hr hj with ⟨b1, b2⟩ | ⟨k', hk', rfl, b2⟩
    · rw [wmVal_of_not_mem a1, wmVal_of_not_mem b1] at hij
      rcases Nat.lt_trichotomy i j with h | h | h
      · exact absurd hij (Nat.ne_of_lt (sub_ocf_lt a1 h))
      · exact h
      · exact absurd hij.symm (Nat.ne_of_lt (sub_ocf_lt b1 h))
    · rw [hij, b2] at a2
      exact absurd a2 (Nat.not_lt.mpr (Nat.le_add_right ..))
    · rw [← hij, a2] at b2
      exact absurd b2 (Nat.not_lt.mpr (Nat.le_add_right ..))
    · obtain rfl : k = k' := Nat.add_left_cancel (a2.symm.trans (hij.trans b2))
      rfl

end Bristol
end GV
