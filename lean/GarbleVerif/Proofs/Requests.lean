import GarbleVerif.Model.Requests
import GarbleVerif.Proofs.PushAndSound
/-! Soundness of the derived requests (`not/or/eq/mux/adder`) and of whole request sequences. -/
namespace GV
namespace Builder

variable {b : Builder} {x y : Nat} {vx vy : List Bool → Bool}

theorem xor_yields (hb : WF b) (hx : Has b x vx) (hy : Has b y vy) :
    Yields b (b.xor x y) fun inp => vx inp ^^ vy inp :=
  (pushXor_post b.fuelFor b x y hb hx.1 hy.1).yields hx hy

theorem and_yields (hb : WF b) (hx : Has b x vx) (hy : Has b y vy) :
    Yields b (b.and x y) fun inp => vx inp && vy inp :=
  (pushAnd_post b.fuelFor b.fuelFor b x y hb hx.1 hy.1).yields hx hy

theorem has_one (hb : WF b) : Has b 1 fun _ => true := ⟨hb.two_le_counter, fun inp _ => sem_one b inp⟩

theorem not_yields (hb : WF b) (hx : Has b x vx) : Yields b (b.not x) fun inp => !vx inp := by
  obtain ⟨wf, e, h⟩ := xor_yields hb hx (has_one hb)
  exact ⟨wf, e, h.congr fun inp _ => Bool.xor_true _⟩

theorem or_yields (hb : WF b) (hx : Has b x vx) (hy : Has b y vy) :
    Yields b (b.or x y) fun inp => vx inp || vy inp := by
  obtain ⟨wf1, e1, hxo⟩ := xor_yields hb hx hy
  obtain ⟨wf2, e2, han⟩ := and_yields wf1 (hx.mono e1) (hy.mono e1)
  obtain ⟨wf3, e3, hr⟩ := xor_yields wf2 (hxo.mono e2) han
  exact ⟨wf3, (e1.trans e2).trans e3, hr.congr fun inp _ => by cases vx inp <;> cases vy inp <;> rfl⟩

theorem eq_yields (hb : WF b) (hx : Has b x vx) (hy : Has b y vy) :
    Yields b (b.eq x y) fun inp => vx inp == vy inp := by
  obtain ⟨wf1, e1, hxo⟩ := xor_yields hb hx hy
  obtain ⟨wf2, e2, hr⟩ := xor_yields wf1 hxo (has_one wf1)
  exact ⟨wf2, e1.trans e2, hr.congr fun inp _ => by cases vx inp <;> cases vy inp <;> rfl⟩

theorem mux_yields {s x0 x1 : Nat} {vs v0 v1 : List Bool → Bool} (hb : WF b) (hs : Has b s vs)
    (h0 : Has b x0 v0) (h1 : Has b x1 v1) :
    Yields b (b.mux s x0 x1) fun inp => if vs inp then v0 inp else v1 inp := by
  unfold Builder.mux
  split
  · rename_i he
    subst he
    -- one wire, so `v0` and `v1` agree on every input that counts
    exact ⟨hb, Ext.refl b, h0.congr fun inp hi => by rw [← h0.2 inp hi, h1.2 inp hi, ite_self]⟩
  · obtain ⟨x, b1, r1, wf1, e1, hx⟩ := (xor_yields hb h0 h1).exists
    obtain ⟨ns, b2, r2, wf2, e2, hns⟩ := (not_yields wf1 (hs.mono e1)).exists
    obtain ⟨sw, b3, r3, wf3, e3, hsw⟩ := (and_yields wf2 (hx.mono e2) hns).exists
    have e123 := (e1.trans e2).trans e3
    obtain ⟨wf4, e4, hr⟩ := xor_yields wf3 (h0.mono e123) hsw
    simp only [r1, r2, r3]
    exact ⟨wf4, e123.trans e4, hr.congr fun inp _ => by cases vs inp <;> cases v0 inp <;> cases v1 inp <;> rfl⟩

theorem adder_yields {c : Nat} {vc : List Bool → Bool} (hb : WF b) (hx : Has b x vx) (hy : Has b y vy)
    (hc : Has b c vc) :
    ∃ s c' b', b.adder x y c = ((s, c'), b') ∧ YieldsAll b ([s, c'], b') fun inp =>
      [(vx inp ^^ vy inp) ^^ vc inp, (vx inp && vy inp) || ((vx inp ^^ vy inp) && vc inp)] := by
  obtain ⟨u, b1, r1, wf1, e1, hu⟩ := (xor_yields hb hx hy).exists
  obtain ⟨v, b2, r2, wf2, e2, hv⟩ := (and_yields wf1 (hx.mono e1) (hy.mono e1)).exists
  have e12 := e1.trans e2
  obtain ⟨s, b3, r3, wf3, e3, hs⟩ := (xor_yields wf2 (hu.mono e2) (hc.mono e12)).exists
  obtain ⟨w, b4, r4, wf4, e4, hw⟩ := (and_yields wf3 (hu.mono (e2.trans e3)) (hc.mono (e12.trans e3))).exists
  obtain ⟨c', b5, r5, wf5, e5, hc'⟩ := (or_yields wf4 (hv.mono (e3.trans e4)) hw).exists
  exact ⟨s, c', b5, by simp only [Builder.adder, r1, r2, r3, r4, r5], wf5, ((e12.trans e3).trans e4).trans e5,
    .cons (hs.mono (e4.trans e5)) (.cons hc' .nil)⟩

end Builder

namespace Req
open Builder

/-- invariant of `run`: results are valid wires carrying `vs` -/
structure RunInv (ig : List Nat) (st : Builder × List Nat) (vs : List Bool → List Bool) : Prop where
  wf : WF st.1
  shift : st.1.shift = ig.sum + 2
  res : HasAll st.1 st.2 vs

theorem RunInv.has {ig : List Nat} {b : Builder} {rs : List Nat} {vs} (h : RunInv ig (b, rs) vs) {x w : Nat}
    (hx : rs[x]? = some w) : Has b w (b.sem · w) :=
  .self (h.res.lt w (List.mem_of_getElem? hx))

theorem RunInv.append {ig : List Nat} {b : Builder} {rs : List Nat} {vs : List Bool → List Bool}
    (h : RunInv ig (b, rs) vs) {r : List Nat × Builder} {v : List Bool → List Bool} (hp : YieldsAll b r v) :
    RunInv ig (r.2, rs ++ r.1) (fun inp => vs inp ++ v inp) ∧ Ext b r.2 :=
  ⟨⟨hp.1, hp.2.1.shift.trans h.shift, (h.res.mono hp.2.1).append hp.2.2⟩, hp.2.1⟩

theorem RunInv.push {ig : List Nat} {b : Builder} {rs : List Nat} {vs : List Bool → List Bool}
    (h : RunInv ig (b, rs) vs) {r : Nat × Builder} {v : List Bool → Bool} (hp : Yields b r v) :
    RunInv ig (r.2, rs ++ [r.1]) (fun inp => vs inp ++ [v inp]) ∧ Ext b r.2 :=
  h.append (r := ([r.1], r.2)) ⟨hp.1, hp.2.1, .cons hp.2.2 .nil⟩

/-- One request: the invariant is kept with the literal result appended and the builder is extended. A handle
that does not exist makes both `step` and `litStep` skip the request. -/
theorem step_spec {ig : List Nat} {b : Builder} {rs : List Nat} {vs} (h : RunInv ig (b, rs) vs) (r : Req) :
    RunInv ig (step (b, rs) r) (fun inp => litStep (rs.map (b.sem inp)) r) ∧ Ext b (step (b, rs) r).1 := by
  -- the result is stated with the values the results carry in `b`; `vs` is not needed
  have h0 : RunInv ig (b, rs) fun inp => rs.map (b.sem inp) := ⟨h.wf, h.shift, .self h.res.lt⟩
  have skip := And.intro h0 (Ext.refl b)
  cases r with
  | xor x y =>
    simp only [step, litStep, List.getElem?_map]
    cases hx : rs[x]? with
    | none => exact skip
    | some wx => cases hy : rs[y]? with
      | none => exact skip
      | some wy => exact h0.push (xor_yields h.wf (h.has hx) (h.has hy))
  | and x y =>
    simp only [step, litStep, List.getElem?_map]
    cases hx : rs[x]? with
    | none => exact skip
    | some wx => cases hy : rs[y]? with
      | none => exact skip
      | some wy => exact h0.push (and_yields h.wf (h.has hx) (h.has hy))
  | or x y =>
    simp only [step, litStep, List.getElem?_map]
    cases hx : rs[x]? with
    | none => exact skip
    | some wx => cases hy : rs[y]? with
      | none => exact skip
      | some wy => exact h0.push (or_yields h.wf (h.has hx) (h.has hy))
  | eq x y =>
    simp only [step, litStep, List.getElem?_map]
    cases hx : rs[x]? with
    | none => exact skip
    | some wx => cases hy : rs[y]? with
      | none => exact skip
      | some wy => exact h0.push (eq_yields h.wf (h.has hx) (h.has hy))
  | not x =>
    simp only [step, litStep, List.getElem?_map]
    cases hx : rs[x]? with
    | none => exact skip
    | some wx => exact h0.push (not_yields h.wf (h.has hx))
  | mux s x0 x1 =>
    simp only [step, litStep, List.getElem?_map]
    cases hs : rs[s]? with
    | none => exact skip
    | some ws => cases hx0 : rs[x0]? with
      | none => exact skip
      | some w0 => cases hx1 : rs[x1]? with
        | none => exact skip
        | some w1 => exact h0.push (mux_yields h.wf (h.has hs) (h.has hx0) (h.has hx1))
  | adder x y c =>
    simp only [step, litStep, List.getElem?_map]
    cases hx : rs[x]? with
    | none => exact skip
    | some wx => cases hy : rs[y]? with
      | none => exact skip
      | some wy => cases hc : rs[c]? with
        | none => exact skip
        | some wc =>
          obtain ⟨s, c', b', hr, hp⟩ := adder_yields (b := b) h.wf (h.has hx) (h.has hy) (h.has hc)
          simp only [hr]
          exact h0.append hp

theorem new_wf (ig : List Nat) (cacheOn : Bool) : WF (Builder.new ig cacheOn) := by
  have hg : ∀ (i : Nat) (g : BGate), (Builder.new ig cacheOn).gates[i]? = some g → False := fun i g h => by
    simp [Builder.new] at h
  exact ⟨Nat.le_add_left _ _, fun i g h => (hg i g h).elim, fun g w h => by simp [Builder.new] at h,
    fun a n h => by simp [Builder.new] at h, fun i x y h => (hg i _ h).elim, fun _ i x y h => (hg i _ h).elim,
    fun _ i j x y x' y' h => (hg i _ h).elim⟩

theorem init_inv (ig : List Nat) (cacheOn : Bool) :
    RunInv ig (Builder.new ig cacheOn, initResults ig) (fun inp => false :: true :: inp) := by
  refine ⟨new_wf ig cacheOn, rfl, ?_, ?_⟩
  · intro w hw
    simp only [initResults, List.mem_range] at hw
    simp [Builder.new, counter]; omega
  · intro inp hi
    -- a fresh builder has no gates: wire `w` is position `w` of `false :: true :: inp`
    have hl : (false :: true :: inp).length = ig.sum + 2 := hi
    show (List.range (ig.sum + 2)).map (fun w => (false :: true :: inp).getD w false) = false :: true :: inp
    rw [← hl]
    exact range_map_getD _

theorem foldl_step_inv {ig : List Nat} (reqs : List Req) {st : Builder × List Nat} {vs : List Bool → List Bool}
    (h : RunInv ig st vs) :
    RunInv ig (reqs.foldl step st) (fun inp => reqs.foldl litStep (vs inp)) ∧ Ext st.1 (reqs.foldl step st).1 := by
  induction reqs generalizing st vs with
  | nil => exact ⟨h, Ext.refl _⟩
  | cons r rs ih =>
    obtain ⟨h1, e1⟩ := step_spec (b := st.1) (rs := st.2) h r
    -- `step_spec` speaks of `st.2.map (st.1.sem inp)`; on an input of the right length that is `vs inp`
    obtain ⟨h2, e2⟩ := ih ⟨h1.wf, h1.shift, h1.res.congr fun inp hi => by rw [h.res.sem inp (hi.trans e1.shift)]⟩
    exact ⟨h2, e1.trans e2⟩

theorem run_inv (ig : List Nat) (cacheOn : Bool) (reqs : List Req) :
    RunInv ig (run ig cacheOn reqs) (fun inp => literal reqs inp) :=
  (foldl_step_inv reqs (init_inv ig cacheOn)).1

theorem compile_eq (ig : List Nat) (cacheOn : Bool) (reqs : List Req) (outs : List Nat) :
    compile ig cacheOn reqs outs =
      (run ig cacheOn reqs).1.build ig okPanicWires (outs.filterMap ((run ig cacheOn reqs).2[·]?)) := rfl

/-- a request never switches gate de-duplication on or off -/
theorem run_cacheOn (ig : List Nat) (cacheOn : Bool) (reqs : List Req) :
    (run ig cacheOn reqs).1.cacheOn = cacheOn :=
  (foldl_step_inv reqs (init_inv ig cacheOn)).2.cacheOn

end Req
end GV
