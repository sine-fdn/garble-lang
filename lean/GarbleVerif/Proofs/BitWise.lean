import GarbleVerif.Proofs.BitOps
/-! `&`, `|`, `^` on integers: the bit-by-bit gates of `Arith.binop` against `Src.bitwise` (the operation on the
two's complement patterns, read back in the type). -/
namespace GV
namespace Bit
open Arith
open Src

theorem natToBits_head (m s : Nat) : (m / 2 ^ s % 2 == 1) = m.testBit s := by
  rw [Nat.testBit_eq_decide_div_mod_eq, Bool.beq_eq_decide_eq]

theorem natToBits_bitwise (f : Nat → Nat → Nat) (g : Bool → Bool → Bool)
    (hf : ∀ p q i, (f p q).testBit i = g (p.testBit i) (q.testBit i)) (p q : Nat) :
    ∀ n, natToBits (f p q) n = List.zipWith g (natToBits p n) (natToBits q n)
  | 0 => rfl
  | n + 1 => by
    simp only [natToBits, List.zipWith_cons_cons, natToBits_head, hf, natToBits_bitwise f g hf p q n]

theorem enc_toUnsigned (k : IntTy) (a : Int) : enc k a = natToBits (toUnsigned k a) k.bits := rfl

theorem enc_bitwise (k : IntTy) (f : Nat → Nat → Nat) (a b : Int) :
    enc k (bitwise f k a b) = natToBits (f (toUnsigned k a) (toUnsigned k b)) k.bits := by
  unfold bitwise
  rw [enc_wrapTo]
  exact intToBits_natCast _ _

theorem bitwise_inRange (k : IntTy) (f : Nat → Nat → Nat) (a b : Int) : k.inRange (bitwise f k a b) = true :=
  inRange_wrapTo k _

theorem zip_map_eq_zipWith (g : Bool → Bool → Bool) (x y : List Bool) :
    ((x.zip y).map fun (a, b) => g a b) = List.zipWith g x y :=
  List.map_zip_eq_zipWith

/-- a gate `g` on every pair of wires computes `f` on the two patterns, if `g` is what `f` does bit by bit -/
theorem zipWith_enc (f : Nat → Nat → Nat) (g : Bool → Bool → Bool)
    (hf : ∀ p q i, (f p q).testBit i = g (p.testBit i) (q.testBit i)) (k : IntTy) (a b : Int) :
    List.zipWith g (enc k a) (enc k b) = enc k (bitwise f k a b) := by
  rw [enc_bitwise, enc_toUnsigned, enc_toUnsigned, natToBits_bitwise f g hf]

theorem binop_band (k : IntTy) (a b : Int) :
    Arith.binop .bitAnd k.signed k.signed k.signed (enc k a) (enc k b) = (enc k (bitwise Nat.land k a b), []) := by
  have hops := binop_operands k a b k.signed k.signed
  unfold Arith.binop
  simp only [hops.1, hops.2]
  rw [zip_map_eq_zipWith (fun a b => a && b), zipWith_enc Nat.land _ (fun p q i => Nat.testBit_and p q i)]

theorem binop_bor (k : IntTy) (a b : Int) :
    Arith.binop .bitOr k.signed k.signed k.signed (enc k a) (enc k b) = (enc k (bitwise Nat.lor k a b), []) := by
  have hops := binop_operands k a b k.signed k.signed
  unfold Arith.binop
  simp only [hops.1, hops.2]
  rw [zip_map_eq_zipWith (fun a b => bOr a b),
    zipWith_enc Nat.lor _ (fun p q i => by rw [bOr_eq]; exact Nat.testBit_or p q i)]

theorem binop_bxor (k : IntTy) (a b : Int) :
    Arith.binop .bitXor k.signed k.signed k.signed (enc k a) (enc k b) = (enc k (bitwise Nat.xor k a b), []) := by
  have hops := binop_operands k a b k.signed k.signed
  unfold Arith.binop
  simp only [hops.1, hops.2]
  rw [zip_map_eq_zipWith (fun a b => a ^^ b), zipWith_enc Nat.xor _ (fun p q i => Nat.testBit_xor p q i)]

end Bit
end GV
