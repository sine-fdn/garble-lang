import GarbleVerif.Proofs.BristolStep
/-! The importer never reaches a `crash` outcome: every index it uses is in range. -/
namespace GV
namespace Bristol

def ImportError.isCrash : ImportError → Bool
  | .crash _ => true
  | _ => false

/-- the result is not a crash, and if it is a value, the value satisfies `P` -/
def Safe {α : Type} (P : α → Prop) : Except ImportError α → Prop
  | .ok a => P a
  | .error e => e.isCrash = false

theorem Safe.ok {α : Type} {P : α → Prop} {r : Except ImportError α} {a : α} (h : Safe P r) (hr : r = .ok a) :
    P a := by
  subst hr
  exact h

theorem Safe.error {α : Type} {P : α → Prop} {r : Except ImportError α} {e : ImportError} (h : Safe P r)
    (hr : r = .error e) : e.isCrash = false := by
  subst hr
  exact h

theorem Safe.bind {α β : Type} {P : α → Prop} {Q : β → Prop} {x : Except ImportError α}
    {f : α → Except ImportError β} (hx : Safe P x) (hf : ∀ a, P a → Safe Q (f a)) : Safe Q (x >>= f) := by
  cases x with
  | error e => exact hx
  | ok a => exact hf a hx

/-- used for the `if`s of the parsers in place of `split`, which would simplify the whole rest of the
definition under the new hypothesis -/
theorem Safe.ite {α : Type} {P : α → Prop} {c : Prop} [Decidable c] {a b : Except ImportError α}
    (ha : c → Safe P a) (hb : ¬ c → Safe P b) : Safe P (if c then a else b) := by
  split
  · exact ha ‹_›
  · exact hb ‹_›

theorem Safe.mapM {α β : Type} {f : α → Except ImportError β} (hf : ∀ a, Safe (fun _ => True) (f a))
    (l : List α) : Safe (fun _ => True) (l.mapM f) := by
  induction l with
  | nil => trivial
  | cons a l ih =>
    rw [List.mapM_cons]
    exact (hf a).bind fun _ _ => ih.bind fun _ _ => trivial

theorem tokNum_safe (t : Tok) : Safe (fun _ => True) (tokNum t) := by
  cases t <;> trivial

theorem parseLine_safe (l : Option Line) : Safe (fun _ => True) (parseLine l) := by
  cases l with
  | none => rfl
  | some l => exact Safe.mapM (fun t => by cases t <;> trivial) l

/-- what `parseGateLine` has checked when it answers `ok` -/
theorem parseGateLine_safe (W : Nat) (parts : Line) :
    Safe (fun (iw, ow, _) => (∀ w ∈ iw, w < W) ∧ ow < W) (parseGateLine W parts) := by
  unfold parseGateLine
  refine .ite (fun _ => rfl) fun _ => ?_
  split
  · exact (tokNum_safe _).error ‹_›
  split
  · exact (tokNum_safe _).error ‹_›
  refine .ite (fun _ => rfl) fun _ => ?_
  split
  · exact (Safe.mapM tokNum_safe _).error ‹_›
  split
  · exact (tokNum_safe _).error ‹_›
  split
  · rfl
  rename_i hfind
  refine .ite (fun _ => rfl) fun _ => ?_
  split
  · rfl
  · exact ⟨fun w hw => by simpa using List.find?_eq_none.mp hfind w hw, by omega⟩

theorem mapWire_safe {I W w : Nat} {wm : List Nat} (hl : wm.length = W - I) (hw : w < W) :
    Safe (fun _ => True) (mapWire I wm w) := by
  refine .ite (fun _ => trivial) fun h => ?_
  rw [List.getElem?_eq_getElem (hl ▸ Nat.sub_lt_sub_right (Nat.le_of_not_lt h) hw)]
  trivial

/-- `decodeGate` adds only `malformedLine` and `unknownGate` to the errors of the reader, and these are no crashes -/
theorem decodeGate_safe {rd : Nat → Except ImportError Nat} {iw : List Nat}
    (hrd : ∀ w ∈ iw, Safe (fun _ => True) (rd w)) (gt : Tok) : Safe (fun _ => True) (decodeGate rd gt iw) := by
  unfold decodeGate
  split
  · split
    next a b => exact (hrd a (by simp)).bind fun _ _ => (hrd b (by simp)).bind fun _ _ => trivial
    · rfl
  · split
    next a b => exact (hrd a (by simp)).bind fun _ _ => (hrd b (by simp)).bind fun _ _ => trivial
    · rfl
  · split
    next a => exact (hrd a (by simp)).bind fun _ _ => trivial
    · rfl
  · rfl

theorem applyGate_safe {W I O : Nat} {st : ImportSt} (hinv : StInv W I O st)
    {iw : List Nat} {ow : Nat} (hiw : ∀ w ∈ iw, w < W) (how : ow < W) (gt : Tok) :
    Safe (StInv W I O) (applyGate W I O st iw ow gt) := by
  rw [applyGate_eq hinv how]
  have hwm := (assign_length st.wiresMap I ow st.nextWire).trans hinv.wmLen
  cases hg : decodeGate _ gt iw with
  | error e => exact (decodeGate_safe (fun w hw => mapWire_safe hwm (hiw w hw)) gt).error hg
  | ok g => exact stepSt_inv hinv ow g

theorem importGates_safe {W I O : Nat} (ls : List Line) {st : ImportSt} (hinv : StInv W I O st) :
    Safe (StInv W I O) (importGates W I O ls st) := by
  induction ls generalizing st with
  | nil => exact hinv
  | cons l ls ih =>
    have : Safe (StInv W I O) (importGate W I O st l) := by
      unfold importGate
      split
      · exact hinv
      have hp := parseGateLine_safe W l
      split
      · exact hp.error ‹_›
      · obtain ⟨hiw, how⟩ := hp.ok ‹_›
        exact applyGate_safe hinv hiw how _
    unfold importGates
    split
    · exact ih (this.ok ‹_›)
    · exact this.error ‹_›

/-- what `parseHeader` has checked when it answers `ok`. `iw ≤ w` and `ow ≤ w` are what keeps
`wires_num - input_wires_num` (convert.rs:344) and `wires_num - num_output_wires` (convert.rs:386) from
underflowing; subtraction in the model truncates, so no `crash` marks these two. -/
theorem parseHeader_safe (lines : List Line) :
    Safe (fun (w, _, iw, ow) => iw ≤ w ∧ w - iw ≤ (lines.drop 3).length ∧ ow ≤ w ∧ w ≤ MAX_GATES)
      (parseHeader lines) := by
  unfold parseHeader
  split
  · exact (parseLine_safe _).error ‹_›
  split
  -- first line is not `[_, wiresNum]`: `malformedLine` (last arm of the match in the source)
  case h_2 => rfl
  split
  · exact (parseLine_safe _).error ‹_›
  refine .ite (fun _ => rfl) fun _ => .ite (fun _ => rfl) fun _ => ?_
  split
  · rfl
  split
  · exact (parseLine_safe _).error ‹_›
  refine .ite (fun _ => rfl) fun _ => .ite (fun _ => rfl) fun _ => ?_
  split
  · rfl
  refine .ite (fun _ => rfl) fun h => ?_
  simp only [Bool.or_eq_true, decide_eq_true_eq, not_or, Nat.not_lt, and_assoc] at h
  exact h

/-- **C11 (importer totality)**: on every file the importer returns a circuit or one of its
error values; no index is ever out of range. (For the two subtractions see `parseHeader_safe`.) -/
theorem importLines_no_crash (lines : List Line) (e : ImportError) (h : importLines lines = .error e) :
    e.isCrash = false := by
  unfold importLines at h
  split at h
  · cases h
    exact (parseHeader_safe lines).error ‹_›
  · dsimp only at h
    split at h
    · cases h
      exact (importGates_safe _ ⟨List.length_replicate, List.length_replicate⟩).error ‹_›
    · cases h

end Bristol
end GV
