import GarbleVerif.Proofs.ArithBasic
/-! The array multiplier (`Op::Mul` in compile.rs) computes the full product — every width. -/
namespace GV
namespace Arith

/-- the number a multiplier state holds: final bits, then the current row with its carry (all LSB first) -/
def stVal (st : MulSt) : Nat := toNatLE (st.lo ++ (st.s ++ [st.c]))

theorem addLE_append (xs ys : List Bool) (c : Bool) (h : xs.length = ys.length) :
    toNatLE ((addLE xs ys c).1 ++ [(addLE xs ys c).2]) = toNatLE xs + toNatLE ys + c.toNat := by
  rw [toNatLE_append, addLE_length xs ys c h, ← addLE_spec xs ys c h]
  simp [toNatLE]

/-- a row adds `xb·Y` one place above the bit it retires -/
theorem mulRow_val (ys : List Bool) (st : MulSt) (xb : Bool) (hlen : st.s.length = ys.length) (hn : 0 < ys.length) :
    (mulRow ys st xb).s.length = ys.length ∧
    stVal (mulRow ys st xb) = stVal st + 2 ^ (st.lo.length + 1) * (xb.toNat * toNatLE ys) := by
  obtain ⟨s, c, lo⟩ := st
  cases s with
  | nil => simp at hlen; omega
  | cons hd tl =>
    have hz : (ys.map (xb && ·)).length = (tl ++ [c]).length := by simpa using hlen.symm
    have hadd := addLE_append _ _ false hz
    rw [toNatLE_map_and, Bool.toNat_false, Nat.add_zero] at hadd
    refine ⟨by simp [mulRow, addLE_length _ _ _ hz], ?_⟩
    simp only [stVal, mulRow, List.tail_cons, List.headD_cons, List.append_assoc, List.nil_append,
      List.cons_append, toNatLE_append lo, toNatLE, hadd, Nat.pow_succ]
    generalize 2 ^ lo.length = A
    generalize toNatLE (tl ++ [c]) = Z
    generalize xb.toNat * toNatLE ys = XY
    -- distributivity: lo + A·(hd + 2·(XY + Z)) = lo + A·(hd + 2·Z) + A·2·XY — the new row stands one place above the
    -- retired bit `hd`
    rw [Nat.mul_add 2, Nat.add_comm (2 * XY), ← Nat.add_assoc hd.toNat, Nat.mul_add A, Nat.mul_assoc A 2,
      Nat.add_assoc]

/-- all rows for the bits `xs`: together they add `xs · Y` one place above the first bit retired -/
theorem mulRows_val (ys : List Bool) (hn : 0 < ys.length) : ∀ (xs : List Bool) (st : MulSt),
    st.s.length = ys.length →
    stVal (mulRows ys xs st) = stVal st + 2 ^ (st.lo.length + 1) * (toNatLE xs * toNatLE ys) ∧
    (mulRows ys xs st).s.length = ys.length ∧ (mulRows ys xs st).lo.length = st.lo.length + xs.length
  | [], st, h => by simp [mulRows, toNatLE, h]
  | xb :: xs, st, h => by
    obtain ⟨h1, hv1⟩ := mulRow_val ys st xb h hn
    obtain ⟨hv, hs, hl⟩ := mulRows_val ys hn xs (mulRow ys st xb) h1
    have hlo : (mulRow ys st xb).lo.length = st.lo.length + 1 := by simp [mulRow]
    rw [hlo] at hv hl
    refine ⟨?_, hs, by rw [mulRows, hl, List.length_cons]; omega⟩
    rw [mulRows, hv, hv1, toNatLE, show 2 ^ (st.lo.length + 1 + 1) = 2 ^ (st.lo.length + 1) * 2 from Nat.pow_succ ..]
    generalize 2 ^ (st.lo.length + 1) = B
    -- V + B·(xb·Y) + B·2·(XS·Y) = V + B·((xb + 2·XS)·Y), for V, XS, Y the values of `st`, `xs`, `ys`
    rw [Nat.add_mul, Nat.mul_add B, Nat.mul_assoc 2, Nat.mul_assoc B 2, Nat.add_assoc]

theorem mulFull_cons (x0 : Bool) (xr ys : List Bool) :
    mulFull (x0 :: xr) ys =
      (mulRows ys xr (mulRow0 ys x0)).lo ++ (mulRows ys xr (mulRow0 ys x0)).s ++ [(mulRows ys xr (mulRow0 ys x0)).c] :=
  rfl

/-- **the array multiplier computes the full product**, for every width, on `|xs| + |ys|` wires -/
theorem mulFull_spec (xs ys : List Bool) (hn : 0 < ys.length) :
    toNatLE (mulFull xs ys) = toNatLE xs * toNatLE ys ∧
    (0 < xs.length → (mulFull xs ys).length = xs.length + ys.length) := by
  cases xs with
  | nil => simp [mulFull, toNatLE]
  | cons x0 xr =>
    have hlen : (ys.map (x0 && ·)).length = (ys.map (fun _ => false)).length := by simp
    have h0 := addLE_append _ _ false hlen
    rw [toNatLE_map_and, toNatLE_zeros] at h0
    have hv0 : stVal (mulRow0 ys x0) = x0.toNat * toNatLE ys := by simp [stVal, mulRow0, h0]
    have hl0 : (mulRow0 ys x0).lo.length = 0 := rfl
    obtain ⟨hv, hs, hl⟩ := mulRows_val ys hn xr (mulRow0 ys x0) (by simp [mulRow0, addLE_length _ _ _ hlen])
    constructor
    · rw [mulFull_cons, List.append_assoc, ← stVal, hv, hv0, toNatLE, Nat.add_mul, Nat.mul_assoc 2]
      rfl
    · intro _
      rw [mulFull_cons, List.length_append, List.length_append, hs, hl, hl0]
      simp only [List.length_cons, List.length_nil]
      omega

theorem toNatLE_take_drop (l : List Bool) (n : Nat) (h : n ≤ l.length) :
    toNatLE l = toNatLE (l.take n) + 2 ^ n * toNatLE (l.drop n) := by
  have := toNatLE_append (l.take n) (l.drop n)
  rwa [List.take_append_drop, List.length_take, Nat.min_eq_left h] at this

/-- cutting an LSB-first numeral to `n` bits: the OR of the rest says whether the value still fits -/
theorem toNatLE_take (l : List Bool) (n : Nat) (h : n ≤ l.length) :
    ((l.drop n).foldl bOr false = true ↔ 2 ^ n ≤ toNatLE l) ∧
    ((l.drop n).foldl bOr false = false → toNatLE (l.take n) = toNatLE l) := by
  have hs := toNatLE_take_drop l n h
  have hlt := toNatLE_lt (l.take n)
  rw [List.length_take, Nat.min_eq_left h] at hlt
  rw [foldl_bOr_iff, hs, Nat.add_comm, Nat.mul_comm]
  refine ⟨hi_pos_iff hlt, fun hf => ?_⟩
  rcases Nat.eq_zero_or_pos (toNatLE (l.drop n)) with h0 | hp
  · rw [h0, Nat.zero_mul, Nat.zero_add]
  · rw [(foldl_bOr_iff _).2 hp] at hf
    cases hf

/-- **unsigned multiplication, all widths**: the result is the exact product unless the flag is set; the flag is set
exactly when the product needs more than `n` bits -/
theorem mul_unsigned (x y : List Bool) (h : x.length = y.length) (hn : 0 < x.length) :
    let r := mul x y false
    r.1.length = x.length ∧
    (r.2 = false → toNat r.1 = toNat x * toNat y) ∧
    (r.2 = true ↔ 2 ^ x.length ≤ toNat x * toNat y) := by
  intro r
  have hyl : 0 < y.reverse.length := by rw [List.length_reverse, ← h]; exact hn
  obtain ⟨hfull, hlen⟩ := mulFull_spec x.reverse y.reverse hyl
  have hlen := hlen (by rw [List.length_reverse]; exact hn)
  have hr : r = (((mulFull x.reverse y.reverse).take x.length).reverse,
      ((mulFull x.reverse y.reverse).drop x.length).foldl bOr false) := by
    simp [r, mul, mulLE]
  rw [toNatLE_reverse, toNatLE_reverse] at hfull
  rw [List.length_reverse] at hlen
  generalize mulFull x.reverse y.reverse = full at *
  obtain ⟨hflag, hval⟩ := toNatLE_take full x.length (by omega)
  rw [hfull] at hflag hval
  rw [hr, toNat_reverse]
  exact ⟨by simp [hlen], hval, hflag⟩

theorem mul_unsigned_length (x y : List Bool) (h : x.length = y.length) (hn : 0 < x.length) :
    (mul x y false).1.length = x.length := (mul_unsigned x y h hn).1

end Arith
end GV
