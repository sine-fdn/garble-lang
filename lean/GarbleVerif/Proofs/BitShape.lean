import GarbleVerif.Proofs.BitInv
/-!
# The bit-level evaluation keeps the scope stack: names and types of the variables

An expression leaves exactly the variables it found (their bits may have changed); a statement list
only adds the bindings of its own `let`s in front. This is what makes the variable-by-variable merge
of `mux_envs` meaningful: both branches of an `if` end with the same variables in the same order (`muxEnv_eq`).
Also here, for all inductions over the model: `foldLoop_inv` and `binOp_kinds`.
-/
namespace GV
namespace Bit
open Src

/-- names and types of the variables in scope -/
def shape (b : BEnv) : List (String × VTy) := b.map fun e => (e.1, e.2.1)

@[simp] theorem shape_nil : shape [] = [] := rfl
@[simp] theorem shape_cons (n : String) (t : VTy) (bs : List Bool) (b : BEnv) :
    shape ((n, t, bs) :: b) = (n, t) :: shape b := rfl

theorem shape_length (b : BEnv) : (shape b).length = b.length := List.length_map _

theorem shape_drop (b : BEnv) (n : Nat) : shape (b.drop n) = (shape b).drop n := List.map_drop

theorem shape_append (a b : BEnv) : shape (a ++ b) = shape a ++ shape b := List.map_append

theorem shape_set (b : BEnv) (x : String) (w : List Bool) : shape (b.set x w) = shape b := by
  induction b with
  | nil => rfl
  | cons e r ih =>
    obtain ⟨n, t, bs⟩ := e
    simp only [BEnv.set]
    split <;> simp [ih]

theorem muxEnv_true : ∀ (a b : BEnv), a.length = b.length → muxEnv true a b = a
  | [], _, _ => rfl
  | _ :: _, [], h => nomatch h
  | e :: a, _ :: b, h => congrArg (e :: ·) (muxEnv_true a b (Nat.succ.inj h))

theorem muxEnv_false : ∀ (a b : BEnv), shape a = shape b → muxEnv false a b = b
  | [], b, h => (List.map_eq_nil_iff.mp h.symm).symm
  | _ :: _, [], h => nomatch h
  | (n, t, x) :: a, (m, u, y) :: b, h => by
    cases (List.cons.inj h).1
    exact congrArg ((n, t, y) :: ·) (muxEnv_false a b (List.cons.inj h).2)

theorem muxEnv_eq (c : Bool) (a b : BEnv) (h : shape a = shape b) : muxEnv c a b = if c then a else b := by
  cases c
  · exact muxEnv_false a b h
  · exact muxEnv_true a b (by rw [← shape_length a, h, shape_length])

theorem shape_muxEnv (c : Bool) (a b : BEnv) (h : shape a = shape b) : shape (muxEnv c a b) = shape a := by
  rw [muxEnv_eq c a b h]
  cases c
  · exact h.symm
  · rfl

theorem shape_restoreB (outer inner : BEnv) (pre : List (String × VTy)) (h : shape inner = pre ++ shape outer) :
    shape (restoreB outer inner) = shape outer := by
  rw [restoreB, shape_drop, ← shape_length inner, ← shape_length outer, h, List.length_append, Nat.add_sub_cancel,
    List.drop_left]

/-- an invariant of the loop state — the first panic so far and the variables in scope — around an unrolled loop: every
iteration re-establishes it once its panic is recorded and its own bindings are dropped -/
theorem foldLoop_inv {I : P × BEnv → Prop} (f : List Bool → BEnv → Option (P × BEnv)) : ∀ (els : List (List Bool)),
    (∀ el ∈ els, ∀ p env pb envb, I (p, env) → f el env = some (pb, envb) → I (seqP p pb, restoreB env envb)) →
    ∀ (p0 : P) (e0 : BEnv) (p2 : P) (env2 : BEnv), I (p0, e0) → foldLoop f els (p0, e0) = some (p2, env2) → I (p2, env2)
  | [], _, p0, e0, p2, env2, h0, h => by
    cases foldLoop_nil.symm.trans h
    exact h0
  | el :: rest, hf, p0, e0, p2, env2, h0, h => by
    obtain ⟨pb, envb, hfe, h⟩ := foldLoop_cons h
    exact foldLoop_inv f rest (fun el' he => hf el' (List.mem_cons_of_mem _ he)) _ _ _ _
      (hf el List.mem_cons_self p0 e0 pb envb h0 hfe) h

/-- leaving an arm: the pattern's bindings are dropped again -/
theorem shape_armOut (bb benv1 enve : BEnv) (h : shape enve = shape (armEnv bb benv1)) :
    shape (armOut bb enve) = shape benv1 := by
  rw [armOut, shape_drop, h, armEnv, shape_append, ← shape_length bb, List.drop_left]

theorem get?_of_shape' {b1 b2 : BEnv} {x : String} {t : VTy} {bs : List Bool} (hs : shape b2 = shape b1)
    (hg : b1.get? x = some (t, bs)) : ∃ bs2, b2.get? x = some (t, bs2) := by
  induction b1 generalizing b2 with
  | nil => cases hg
  | cons hd tl ih =>
    obtain ⟨n, t1, bs1⟩ := hd
    match b2, hs with
    | (_, _, bs2) :: tl2, hs =>
      simp only [shape_cons, List.cons.injEq, Prod.mk.injEq] at hs
      obtain ⟨⟨rfl, rfl⟩, htl⟩ := hs
      simp only [BEnv.get?] at hg ⊢
      split at hg
      · cases hg
        exact ⟨bs2, if_pos ‹_›⟩
      · rw [if_neg ‹_›]
        exact ih htl hg

/-- the four kinds of binary operators the compiler treats differently: `&&`, `||`, the shifts, and the strict ones
(`StrictSome`) -/
theorem binOp_kinds (op : Src.BinOp) :
    op = .land ∨ op = .lor ∨ (op = .shl ∨ op = .shr) ∨ (op ≠ .land ∧ op ≠ .lor ∧ op ≠ .shl ∧ op ≠ .shr) := by
  by_cases h1 : op = .land
  · exact .inl h1
  by_cases h2 : op = .lor
  · exact .inr (.inl h2)
  by_cases h3 : op = .shl
  · exact .inr (.inr (.inl (.inl h3)))
  by_cases h4 : op = .shr
  · exact .inr (.inr (.inl (.inr h4)))
  exact .inr (.inr (.inr ⟨h1, h2, h3, h4⟩))

mutual
theorem shapeE (call : Ctx) : (e : Expr) → ∀ (benv : BEnv) (t : VTy) (bs : List Bool) (p : P) (benv' : BEnv),
    bitExpr call benv e = some (t, bs, p, benv') → shape benv' = shape benv
  | .bool b => fun benv t bs p benv' h => by
    cases bitExpr_bool.symm.trans h
    rfl
  | .int n k => fun benv t bs p benv' h => by
    rw [(bitExpr_int h).2.2.2.2]
  | .var x => fun benv t bs p benv' h => by
    rw [(bitExpr_var h).2.2]
  | .un op ty a => fun benv t bs p benv' h => by
    obtain ⟨_, _, _, ha, _⟩ | ⟨_, _, _, _, ha, _⟩ | ⟨_, _, _, _, _, _, ha, _⟩ := bitExpr_un h
    all_goals exact shapeE call a _ _ _ _ _ ha
  | .cast src dst a => fun benv t bs p benv' h => by
    obtain ⟨_, _, _, _, _, ha, _⟩ := bitExpr_cast h
    exact shapeE call a _ _ _ _ _ ha
  | .ite c e1 e2 => fun benv t bs p benv' h => by
    obtain ⟨_, _, _, _, _, _, _, _, _, hc, h1, h2, _, _, rfl⟩ := bitExpr_ite h
    have s1 := shapeE call e1 _ _ _ _ _ h1
    rw [shape_muxEnv _ _ _ (s1.trans (shapeE call e2 _ _ _ _ _ h2).symm), s1, shapeE call c _ _ _ _ _ hc]
  | .block ss => fun benv t bs p benv' h => by
    obtain ⟨_, hs, rfl⟩ := bitExpr_block h
    obtain ⟨pre, hp⟩ := shapeSS call ss _ _ _ _ _ hs
    exact shape_restoreB _ _ pre hp
  | .bin op ty a b => fun benv t bs p benv' h => by
    rcases binOp_kinds op with rfl | rfl | h3 | ⟨h1, h2, h3, h4⟩
    · obtain ⟨_, _, _, _, _, _, ha, hb, _, _, _, rfl⟩ := bitExpr_land h
      have sb := shapeE call b _ _ _ _ _ hb
      rw [shape_muxEnv _ _ _ sb, sb, shapeE call a _ _ _ _ _ ha]
    · obtain ⟨_, _, _, _, _, _, ha, hb, _, _, _, rfl⟩ := bitExpr_lor h
      rw [shape_muxEnv _ _ _ (shapeE call b _ _ _ _ _ hb).symm, shapeE call a _ _ _ _ _ ha]
    · obtain ⟨_, _, _, _, _, _, _, ha, hb, _⟩ := bitExpr_shift h3 h
      rw [shapeE call b _ _ _ _ _ hb, shapeE call a _ _ _ _ _ ha]
    · cases bitExpr_strict h1 h2 h3 h4 h with
      | litL _ _ _ _ _ hb => exact shapeE call b _ _ _ _ _ hb
      | litR _ _ _ _ _ _ ha => exact shapeE call a _ _ _ _ _ ha
      | agg _ _ ha hb => rw [shapeE call b _ _ _ _ _ hb, shapeE call a _ _ _ _ _ ha]
      | scalar _ _ ha hb _ => rw [shapeE call b _ _ _ _ _ hb, shapeE call a _ _ _ _ _ ha]
  | .tuple .nil => fun benv t bs p benv' h => by
    cases bitExpr_unit.symm.trans h
    rfl
  | .tuple (.cons e es) => fun benv t bs p benv' h => by
    obtain ⟨_, hl, _⟩ := bitExpr_tuple h
    exact shapeL call _ _ _ _ _ hl
  | .tupleGet a i => fun benv t bs p benv' h => by
    obtain ⟨_, _, _, _, ha, _⟩ := bitExpr_tupleGet h
    exact shapeE call a _ _ _ _ _ ha
  | .array es => fun benv t bs p benv' h => by
    obtain ⟨_, _, _, _, hl, _⟩ := bitExpr_array h
    exact shapeL call es _ _ _ _ hl
  | .repeat_ a n => fun benv t bs p benv' h => by
    obtain ⟨_, _, ha, _⟩ := bitExpr_repeat h
    exact shapeE call a _ _ _ _ _ ha
  | .index a i => fun benv t bs p benv' h => by
    obtain ⟨_, _, _, _, _, _, _, ha, hi, _⟩ := bitExpr_index h
    rw [shapeE call i _ _ _ _ _ hi, shapeE call a _ _ _ _ _ ha]
  | .range lo hi k => fun benv t bs p benv' h => by
    rw [(bitExpr_range h).2.2.2.2]
  | .struct name fs => fun benv t bs p benv' h => by
    obtain ⟨_, hf, _⟩ := bitExpr_struct h
    exact shapeF call fs _ _ _ _ hf
  | .field a fname => fun benv t bs p benv' h => by
    obtain ⟨_, _, _, _, _, ha, _⟩ := bitExpr_field h
    exact shapeE call a _ _ _ _ _ ha
  | .enumLit ename variant isUnit es => fun benv t bs p benv' h => by
    obtain ⟨_, _, _, _, _, _, hl, _⟩ := bitExpr_enumLit h
    exact shapeL call es _ _ _ _ hl
  | .match_ scrut arms => fun benv t bs p benv' h => by
    obtain ⟨_, _, _, _, _, _, hs, _, ha, _⟩ := bitExpr_match h
    rw [shapeArms call arms _ _ _ _ _ ha rfl, shapeE call scrut _ _ _ _ _ hs]
  | .call fn args => fun benv t bs p benv' h => by
    obtain ⟨_, _, _, hl, _⟩ := bitExpr_call h
    exact shapeL call args _ _ _ _ hl
theorem shapeL (call : Ctx) : (es : ExprList) → ∀ (benv : BEnv) (vs : List (VTy × List Bool)) (p : P) (benv' : BEnv),
    bitList call benv es = some (vs, p, benv') → shape benv' = shape benv
  | .nil => fun benv vs p benv' h => by
    cases bitList_nil.symm.trans h
    rfl
  | .cons e rest => fun benv vs p benv' h => by
    obtain ⟨_, _, _, _, _, _, he, hr, _⟩ := bitList_cons h
    rw [shapeL call rest _ _ _ _ hr, shapeE call e _ _ _ _ _ he]
theorem shapeF (call : Ctx) : (fs : FieldExprs) → ∀ (benv : BEnv) (vs : List (String × VTy × List Bool)) (p : P) (benv' : BEnv),
    bitFields call benv fs = some (vs, p, benv') → shape benv' = shape benv
  | .nil => fun benv vs p benv' h => by
    cases bitFields_nil.symm.trans h
    rfl
  | .cons n e rest => fun benv vs p benv' h => by
    obtain ⟨_, _, _, _, _, _, he, hr, _⟩ := bitFields_cons h
    rw [shapeF call rest _ _ _ _ hr, shapeE call e _ _ _ _ _ he]
theorem shapeArms (call : Ctx) : (arms : Arms) → ∀ (benv1 : BEnv) (ts : Ty) (sb : List Bool) (st st' : ArmSt),
    bitArms call benv1 ts sb arms st = some st' → shape st.2.2.2 = shape benv1 → shape st'.2.2.2 = shape benv1
  | .nil => fun benv1 ts sb st st' h hs => by
    cases bitArms_nil.symm.trans h
    exact hs
  | .cons pat e rest => fun benv1 ts sb (hasPrev, ret, pacc, envAcc) st' h hs => by
    obtain ⟨m, bb, _, _, _, enve, _, he, _, hr⟩ := bitArms_cons h
    have hout := shape_armOut bb benv1 enve (shapeE call e _ _ _ _ _ he)
    refine shapeArms call rest benv1 ts sb _ st' hr ?_
    rw [shape_muxEnv _ _ _ (hout.trans hs.symm), hout]
theorem shapeSS (call : Ctx) : (ss : StmtList) → ∀ (benv : BEnv) (t : VTy) (bs : List Bool) (p : P) (benv' : BEnv),
    bitStmts call benv ss = some (t, bs, p, benv') → ∃ pre, shape benv' = pre ++ shape benv
  | .nil => fun benv t bs p benv' h => by
    cases bitStmts_nil.symm.trans h
    exact ⟨[], rfl⟩
  | .cons s .nil => fun benv t bs p benv' h => shapeS call s _ _ _ _ _ (bitStmts_one.symm.trans h)
  | .cons s (.cons s2 rest) => fun benv t bs p benv' h => by
    obtain ⟨_, _, _, _, _, hs, hr, _⟩ := bitStmts_cons h
    obtain ⟨pre1, h1⟩ := shapeS call s _ _ _ _ _ hs
    obtain ⟨pre2, h2⟩ := shapeSS call (.cons s2 rest) _ _ _ _ _ hr
    exact ⟨pre2 ++ pre1, by rw [h2, h1, List.append_assoc]⟩
theorem shapeS (call : Ctx) : (s : Stmt) → ∀ (benv : BEnv) (t : VTy) (bs : List Bool) (p : P) (benv' : BEnv),
    bitStmt call benv s = some (t, bs, p, benv') → ∃ pre, shape benv' = pre ++ shape benv
  | .let_ pat e => fun benv t bs p benv' h => by
    obtain ⟨_, _, _, bb, he, _, _, rfl, _⟩ := bitStmt_let h
    exact ⟨shape bb, by rw [shape_append, shapeE call e _ _ _ _ _ he]⟩
  | .letMut x e => fun benv t bs p benv' h => by
    obtain ⟨te, _, _, he, _, _, rfl⟩ := bitStmt_letMut h
    exact ⟨[(x, te)], by rw [shape_cons, shapeE call e _ _ _ _ _ he]; rfl⟩
  | .assign x path e => fun benv t bs p benv' h => by
    obtain ⟨_, _, _, _, _, _, he, _, _, _, ⟨_, _, _, rfl⟩ | ⟨_, _, _, _, hu, _, rfl⟩⟩ := bitStmt_assign h
    · exact ⟨[], by rw [shape_set, shapeE call e _ _ _ _ _ he]; rfl⟩
    · exact ⟨[], by rw [shape_set, shapeU call path _ _ _ _ _ _ _ _ hu, shapeE call e _ _ _ _ _ he]; rfl⟩
  | .expr e => fun benv t bs p benv' h => ⟨[], shapeE call e _ _ _ _ _ (bitStmt_expr.symm.trans h)⟩
  | .for_ pat arr body => fun benv t bs p benv' h => by
    obtain ⟨_, _, _, _, _, ha, _, hl, _⟩ := bitStmt_for h
    refine ⟨[], foldLoop_inv (I := fun st => shape st.2 = shape benv) _ _ ?_ _ _ _ _ (shapeE call arr _ _ _ _ _ ha) hl⟩
    -- an iteration adds the bindings of the pattern and of the body in front, and they are dropped again
    intro el _ _ env pb envb henv hfe
    obtain ⟨_, bb, _, _, _, hbody⟩ := loopStep_some.1 hfe
    obtain ⟨pre, hpre⟩ := shapeSS call body _ _ _ _ _ hbody
    exact (shape_restoreB _ _ (pre ++ shape bb) (by rw [hpre, shape_append, List.append_assoc])).trans henv
  | .forJoin _ _ _ _ => fun _ _ _ _ _ h => nomatch h
theorem shapeU (call : Ctx) : (path : Path) → ∀ (benv : BEnv) (t : Ty) (cur : List Bool) (vt : VTy) (vb out : List Bool) (p : P)
    (benv' : BEnv), bitUpd call benv t cur vt vb path = some (out, p, benv') → shape benv' = shape benv
  | .nil => fun benv t cur vt vb out p benv' h => by
    rw [(bitUpd_nil h).2.2.2]
  | .tup i rest => fun benv t cur vt vb out p benv' h => by
    obtain ⟨_, _, _, _, _, _, hu, _⟩ := bitUpd_tup h
    exact shapeU call rest _ _ _ _ _ _ _ _ hu
  | .index ie rest => fun benv t cur vt vb out p benv' h => by
    obtain ⟨_, _, _, _, _, _, _, _, hi, _, hu, _⟩ := bitUpd_index h
    rw [shapeU call rest _ _ _ _ _ _ _ _ hu, shapeE call ie _ _ _ _ _ hi]
  | .fld f rest => fun benv t cur vt vb out p benv' h => by
    obtain ⟨_, _, _, _, _, _, _, hu, _⟩ := bitUpd_fld h
    exact shapeU call rest _ _ _ _ _ _ _ _ hu
end

/-- after an arm of a `match` the variables are those before it -/
theorem shape_armOut_run {call : Ctx} {bb benv1 enve : BEnv} {e : Expr} {te : VTy} {be : List Bool} {pe : P}
    (he : bitExpr call (armEnv bb benv1) e = some (te, be, pe, enve)) : shape (armOut bb enve) = shape benv1 :=
  shape_armOut bb benv1 enve (shapeE call e _ _ _ _ _ he)

end Bit
end GV
