import GarbleVerif.Proofs.ArithBasic
/-! Big-endian statements: addition, negation, subtraction against integer arithmetic.

Negation, subtraction and the value modulo `2^n` that the casts need (`valOf_emod`) rest on one fact, `toInt_eq_bmod`:
the two's complement value of an `n`-bit pattern is the balanced residue (`Int.bmod`) of its unsigned value modulo `2^n`.
Adder and negation compute modulo `2^n`, and a value inside the signed range is its own residue. Signed addition rests on
a case check of its top position, `top_adder`. -/
namespace GV
namespace Arith

/-- two's complement value of a big-endian bit list -/
def toInt (bs : List Bool) : Int :=
  (toNat bs : Int) - (if bs.headD false then (2 : Int) ^ bs.length else 0)

/-- value under a signedness flag -/
def valOf (signed : Bool) (bs : List Bool) : Int := if signed then toInt bs else (toNat bs : Int)

theorem toNat_cons (a : Bool) (rest : List Bool) :
    toNat (a :: rest) = a.toNat * 2 ^ rest.length + toNat rest := by
  simp only [toNat, List.reverse_cons, toNatLE_append, List.length_reverse, toNatLE, Nat.mul_zero, Nat.add_zero]
  rw [Nat.mul_comm]; omega

theorem toNat_lt (bs : List Bool) : toNat bs < 2 ^ bs.length := by
  have := toNatLE_lt bs.reverse
  rwa [List.length_reverse] at this

theorem toNat_nil : toNat [] = 0 := rfl

theorem toNat_map_not (x : List Bool) : toNat (x.map (!·)) + toNat x + 1 = 2 ^ x.length := by
  have := toNatLE_map_not x.reverse
  rwa [List.map_reverse, List.length_reverse] at this

theorem exists_cons_of_length {x : List Bool} {n : Nat} (h : x.length = n + 1) :
    ∃ a rest, x = a :: rest ∧ rest.length = n := by
  cases x with
  | nil => simp at h
  | cons a rest => exact ⟨a, rest, rfl, by simpa using h⟩

/-- `omega` does not see through the cast of a power: state facts with `(2 ^ n : Nat)` and generalize it -/
theorem two_pow_cast (n : Nat) : ((2 ^ n : Nat) : Int) = (2 : Int) ^ n := Int.natCast_pow 2 n

theorem toInt_cons (a : Bool) (rest : List Bool) :
    toInt (a :: rest) = (toNat rest : Int) - a.toNat * (2 : Int) ^ rest.length := by
  simp only [toInt, toNat_cons, List.headD_cons, List.length_cons, Int.pow_succ]
  cases a <;> simp <;> omega

theorem toInt_range (a : Bool) (x : List Bool) :
    -(2 : Int) ^ x.length ≤ toInt (a :: x) ∧ toInt (a :: x) < (2 : Int) ^ x.length := by
  have h := toNat_lt x
  rw [toInt_cons, ← two_pow_cast]
  generalize 2 ^ x.length = P at *
  cases a <;> simp <;> omega

theorem head_iff (a : Bool) (rest : List Bool) :
    a = true ↔ 2 ^ rest.length ≤ toNat (a :: rest) := by
  have := toNat_lt rest
  rw [toNat_cons]
  cases a <;> simp <;> omega

theorem toNat_inj (xs ys : List Bool) (hl : xs.length = ys.length) (ht : toNat xs = toNat ys) : xs = ys := by
  induction xs, ys, hl using ind₂ with
  | nil => rfl
  | cons a b xs ys hl ih =>
    -- the leading bit says in which half of the range the value lies
    have hab : a = b := by rw [Bool.eq_iff_iff, head_iff a xs, head_iff b ys, ht, hl]
    rw [toNat_cons, toNat_cons, hl, hab] at ht
    rw [hab, ih (Nat.add_left_cancel ht)]

theorem sign_iff (e : List Bool) : e.headD false = true ↔ toInt e < 0 := by
  cases e with
  | nil => simp [toInt, toNat_nil]
  | cons s t =>
    have := toNat_lt t
    rw [toInt_cons, ← two_pow_cast]
    generalize 2 ^ t.length = P at *
    cases s <;> simp <;> omega

theorem bmod_eq_self (v : Int) (n : Nat) (lo : -(2 : Int) ^ n ≤ v) (hi : v < (2 : Int) ^ n) :
    v.bmod (2 ^ (n + 1)) = v := by
  apply Int.bmod_eq_of_le_mul_two <;> rw [two_pow_cast, Int.pow_succ] <;> omega

/-- **the two's complement value is the balanced residue of the unsigned value** -/
theorem toInt_eq_bmod (bs : List Bool) : toInt bs = (toNat bs : Int).bmod (2 ^ bs.length) := by
  cases bs with
  | nil => rfl
  | cons a rest =>
    -- `toInt` is in the signed range and differs from `toNat` by nothing or by the modulus
    obtain ⟨lo, hi⟩ := toInt_range a rest
    rw [← bmod_eq_self _ _ lo hi, toInt, List.headD_cons, List.length_cons]
    cases a
    · rw [if_neg Bool.false_ne_true, Int.sub_zero]
    · rw [if_pos rfl, ← two_pow_cast, Int.sub_bmod_right]

/-- read as signed or as unsigned, a bit list has the same residue modulo `2^length`: its unsigned value -/
theorem valOf_emod (s : Bool) (v : List Bool) : valOf s v % (2 : Int) ^ v.length = toNat v := by
  have : (toNat v : Int) % (2 : Int) ^ v.length = toNat v := by
    rw [← two_pow_cast, ← Int.natCast_emod, Nat.mod_eq_of_lt (toNat_lt v)]
  cases s
  · exact this
  · rw [valOf, if_pos rfl, toInt_eq_bmod, ← two_pow_cast, Int.bmod_emod, two_pow_cast, this]

theorem valOf_eq_zero (s : Bool) (x : List Bool) : valOf s x = 0 ↔ toNat x = 0 := by
  constructor
  · intro h
    have hm := valOf_emod s x
    rw [h, Int.zero_emod] at hm
    exact Int.natCast_eq_zero.mp hm.symm
  · intro h
    cases s
    · exact Int.natCast_eq_zero.mpr h
    · rw [valOf, if_pos rfl, toInt_eq_bmod, h, Int.natCast_zero, Int.zero_bmod]

theorem toInt_sext (a : Bool) (x : List Bool) : toInt (a :: a :: x) = toInt (a :: x) := by
  rw [toInt_cons, toInt_cons, toNat_cons, List.length_cons, Int.pow_succ]
  cases a <;> simp <;> omega

theorem toInt_zext (x : List Bool) : toInt (false :: x) = toNat x := by simp [toInt_cons]

theorem toNat_tail (e : List Bool) (h : e.headD false = false) : (toNat e.tail : Int) = toInt e := by
  cases e with
  | nil => rfl
  | cons s t =>
    rw [List.headD_cons] at h
    rw [h, toInt_zext, List.tail_cons]

/-- dropping the top bit of a signed number keeps its value exactly when the two top bits agree,
and they agree exactly when the value fits the narrower type -/
theorem toInt_tail (e : List Bool) (n : Nat) (hl : e.length = n + 2) :
    ((e.headD false ^^ e.tail.headD false) = true ↔ toInt e < -(2 : Int) ^ n ∨ (2 : Int) ^ n ≤ toInt e) ∧
    ((e.headD false ^^ e.tail.headD false) = false → toInt e.tail = toInt e) := by
  obtain ⟨s0, t, rfl, ht⟩ := exists_cons_of_length hl
  obtain ⟨s1, rest, rfl, rfl⟩ := exists_cons_of_length ht
  obtain ⟨lo, hi⟩ := toInt_range s1 rest
  simp only [List.headD_cons, List.tail_cons, toInt_cons s0, toNat_cons, List.length_cons, Int.pow_succ]
  rw [toInt_cons] at lo hi ⊢
  push_cast
  generalize (2 : Int) ^ rest.length = P at *
  cases s0 <;> cases s1 <;> simp at lo hi ⊢ <;> omega

theorem addLE_snoc (l m : List Bool) (a b c : Bool) (h : l.length = m.length) :
    addLE (l ++ [a]) (m ++ [b]) c =
      ((addLE l m c).1 ++ [(fullAdder a b (addLE l m c).2).1], (fullAdder a b (addLE l m c).2).2) := by
  induction l, m, h using ind₂ generalizing c with
  | nil => simp [addLE]
  | cons x y l m h ih => simp only [List.cons_append, addLE, ih]

theorem add_cons (a b : Bool) (x y : List Bool) (h : x.length = y.length) :
    add (a :: x) (b :: y) =
      let low := addLE x.reverse y.reverse false
      let top := fullAdder a b low.2
      (top.1 :: low.1.reverse, top.2, low.2) := by
  simp only [add, List.reverse_cons, List.isEmpty_cons, Bool.false_eq_true, if_false]
  rw [addLE_snoc _ _ _ _ _ (by simpa using h)]
  simp

theorem add_length (x y : List Bool) (h : x.length = y.length) : (add x y).1.length = x.length := by
  simp only [add, List.length_reverse]
  rw [addLE_length _ _ _ (by simpa using h)]
  simp

/-- **addition, all widths**: `sum + 2^n · carry = x + y` -/
theorem add_spec (x y : List Bool) (h : x.length = y.length) :
    toNat (add x y).1 + 2 ^ x.length * (add x y).2.1.toNat = toNat x + toNat y := by
  cases x with
  | nil =>
    cases y with
    | nil => simp [add, addLE, toNat, toNatLE]
    | cons _ _ => simp at h
  | cons a x =>
    have := addLE_spec (a :: x).reverse y.reverse false (by simpa using h)
    simp only [add, List.isEmpty_cons, Bool.false_eq_true, if_false, toNat, List.reverse_reverse]
    simpa using this

theorem add_exact (x y : List Bool) (h : x.length = y.length) (hc : (add x y).2.1 = false) :
    toNat (add x y).1 = toNat x + toNat y := by
  have hs := add_spec x y h
  rwa [hc, Bool.toNat_false, Nat.mul_zero, Nat.add_zero] at hs

theorem add_overflow_unsigned (x y : List Bool) (h : x.length = y.length) :
    (add x y).2.1 = true ↔ 2 ^ x.length ≤ toNat x + toNat y := by
  have hs := add_spec x y h
  have hl := toNat_lt (add x y).1
  rw [add_length x y h] at hl
  cases hc : (add x y).2.1 <;> simp [hc] at hs ⊢ <;> omega

theorem toInt_add (x y : List Bool) (h : x.length = y.length) :
    toInt (add x y).1 = (toInt x + toInt y).bmod (2 ^ x.length) := by
  -- `add_spec` cast to `Int`: x + y = sum + 2^n·carry; both sides are residues, and `bmod` forgets the multiple of 2^n
  have hs : ((toNat x + toNat y : Nat) : Int) = _ := congrArg Nat.cast (add_spec x y h).symm
  rw [Int.natCast_add, Int.natCast_add, Int.natCast_mul] at hs
  rw [toInt_eq_bmod x, toInt_eq_bmod y, ← h, ← Int.add_bmod, toInt_eq_bmod, add_length x y h, hs,
    Int.add_mul_bmod_self_left]

/-- the top position of a signed addition, on numbers: `L` are the low bits of the sum and `c` is the carry into
the top position, so that `v` is the exact sum. The result is `v` if the carry out of the top position equals the
carry into it, and the two carries differ iff `v` does not fit -/
theorem top_adder (a b c : Bool) (L P : Int) (hL : 0 ≤ L) (hLP : L < P) :
    let t := fullAdder a b c
    let v := L + P * c.toNat - a.toNat * P - b.toNat * P
    ((t.2 ^^ c) = false → L - t.1.toNat * P = v) ∧ ((t.2 ^^ c) = true ↔ v < -P ∨ P ≤ v) := by
  cases a <;> cases b <;> cases c <;> simp [fullAdder, bOr] <;> omega

/-- **signed addition, all widths**: the sum is exact unless `carry ≠ carry_prev`, and that
happens exactly when the exact sum is outside `[-2^(n-1), 2^(n-1))` -/
theorem add_signed (a b : Bool) (x y : List Bool) (h : x.length = y.length) :
    let r := add (a :: x) (b :: y)
    ((r.2.1 ^^ r.2.2) = false → toInt r.1 = toInt (a :: x) + toInt (b :: y)) ∧
    ((r.2.1 ^^ r.2.2) = true ↔
      (toInt (a :: x) + toInt (b :: y) < -(2 : Int) ^ x.length ∨
        (2 : Int) ^ x.length ≤ toInt (a :: x) + toInt (b :: y))) := by
  intro r
  have hr : r = _ := add_cons a b x y h
  have hlow := addLE_spec x.reverse y.reverse false (by simpa using h)
  have hll := addLE_length x.reverse y.reverse false (by simpa using h)
  generalize addLE x.reverse y.reverse false = low at *
  obtain ⟨ls, lc⟩ := low
  have hlt := toNatLE_lt ls
  rw [List.length_reverse] at hlow hll
  rw [toNatLE_reverse, toNatLE_reverse] at hlow
  rw [hll] at hlt
  have htop := top_adder a b lc (toNatLE ls) (2 ^ x.length : Nat) (Int.natCast_nonneg _) (Int.ofNat_lt.2 hlt)
  rw [hr]
  simp only [toInt_cons, List.length_reverse, hll, ← h, toNat_reverse, ← two_pow_cast] at htop ⊢
  generalize 2 ^ x.length = P at *
  -- the exact sum, written with the low bits of the result and their carry
  have hv : ((toNat x : Int) - a.toNat * P) + ((toNat y : Int) - b.toNat * P) =
      toNatLE ls + P * lc.toNat - a.toNat * P - b.toNat * P := by
    simp only [Bool.toNat_false, Nat.add_zero] at hlow
    omega
  rw [hv]
  exact htop

theorem neg_length (x : List Bool) : (neg x).length = x.length := by
  simp [neg, negLE_length]

theorem toNat_neg (x : List Bool) : toNat (neg x) = (2 ^ x.length - toNat x) % 2 ^ x.length := by
  have h := negLE_true x.reverse
  rw [List.length_reverse] at h
  simpa [toNat, neg] using h

theorem neg_val (x : List Bool) :
    toNat (neg x) = if toNat x = 0 then 0 else 2 ^ x.length - toNat x := by
  have := toNat_lt x
  rw [toNat_neg]
  split
  · rename_i h0; rw [h0, Nat.sub_zero, Nat.mod_self]
  · exact Nat.mod_eq_of_lt (by omega)

theorem toInt_neg_toNat (x : List Bool) : toInt (neg x) = (-(toNat x : Int)).bmod (2 ^ x.length) := by
  rw [toInt_eq_bmod, neg_length, toNat_neg, Int.natCast_emod, Int.emod_bmod,
    Int.natCast_sub (Nat.le_of_lt (toNat_lt x)), Int.sub_bmod_left]

theorem toInt_neg (x : List Bool) : toInt (neg x) = (-toInt x).bmod (2 ^ x.length) := by
  rw [toInt_neg_toNat, toInt_eq_bmod x, Int.bmod_neg_bmod]

theorem negChecked_spec (a : Bool) (rest : List Bool) :
    let r := negChecked (a :: rest)
    (r.2 = true ↔ toInt (a :: rest) = -(2 : Int) ^ rest.length) ∧
    (r.2 = false → toInt r.1 = - toInt (a :: rest)) := by
  intro r
  have hN : toInt r.1 = _ := toInt_neg (a :: rest)
  rw [List.length_cons] at hN
  obtain ⟨lo, hi⟩ := toInt_range a rest
  have hpos : (0 : Int) < 2 ^ rest.length := Int.pow_pos (by decide)
  -- the flag says that operand and result are both negative
  have hflag : r.2 = true ↔ toInt (a :: rest) < 0 ∧ toInt r.1 < 0 := by
    rw [← sign_iff, ← sign_iff]
    exact Iff.of_eq (Bool.and_eq_true _ _)
  rw [← Bool.not_eq_true, hflag]
  by_cases hmin : toInt (a :: rest) = -(2 : Int) ^ rest.length
  · -- `2^n` is congruent to `-2^n`
    rw [hmin, Int.neg_neg, Int.bmod_eq_neg (Int.le_of_lt hpos) (by rw [two_pow_cast, Int.pow_succ]; omega)] at hN
    omega
  · rw [bmod_eq_self _ _ (by omega) (by omega)] at hN
    omega

/-- subtraction is addition of the complement: modulo `2^n` the adder yields the difference -/
theorem toInt_add_neg (x y : List Bool) (h : x.length = y.length) :
    toInt (add x (neg y)).1 = (toInt x - toInt y).bmod (2 ^ x.length) := by
  rw [toInt_add x (neg y) (by rw [neg_length, h]), toInt_neg, ← h, Int.add_bmod_bmod, Int.sub_eq_add_neg]

theorem sub_length (x y : List Bool) (s : Bool) (h : x.length = y.length) : (sub x y s).1.length = x.length := by
  simp only [sub]
  rw [List.length_tail, add_length _ _ (by simp [neg_length, h])]
  simp

/-- **unsigned subtraction, all widths**: the flag is set exactly when `x < y`; otherwise the
result is the exact difference -/
theorem sub_unsigned (x y : List Bool) (h : x.length = y.length) :
    ((sub x y false).2 = true ↔ toNat x < toNat y) ∧
    ((sub x y false).2 = false → toNat (sub x y false).1 = toNat x - toNat y) ∧
    (sub x y false).1.length = x.length := by
  -- with a zero bit in front of both operands the difference fits: the wider sum is the difference itself
  have hE := toInt_add_neg (false :: x) (false :: y) (by simp [h])
  have hx := toNat_lt x
  have hy := toNat_lt y
  rw [← h] at hy
  rw [← Int.ofNat_lt, two_pow_cast] at hx hy
  rw [toInt_zext, toInt_zext, List.length_cons, bmod_eq_self _ _ (by omega) (by omega)] at hE
  refine ⟨?_, ?_, sub_length x y false h⟩
  · show (add (false :: x) (neg (false :: y))).1.headD false = true ↔ _
    rw [sign_iff, hE]; omega
  · intro hf
    have := toNat_tail (add (false :: x) (neg (false :: y))).1 hf
    rw [hE] at this
    show toNat (add (false :: x) (neg (false :: y))).1.tail = _
    omega

/-- **signed subtraction, all widths** (operands of `n + 1` bits): the flag is set exactly when
the exact difference is outside `[-2^n, 2^n)`; otherwise the result is the exact difference -/
theorem sub_signed (a b : Bool) (x y : List Bool) (h : x.length = y.length) :
    let r := sub (a :: x) (b :: y) true
    (r.2 = true ↔ (toInt (a :: x) - toInt (b :: y) < -(2 : Int) ^ x.length ∨
      (2 : Int) ^ x.length ≤ toInt (a :: x) - toInt (b :: y))) ∧
    (r.2 = false → toInt r.1 = toInt (a :: x) - toInt (b :: y)) ∧
    r.1.length = x.length + 1 := by
  intro r
  -- with the sign bit of both operands doubled the difference fits: the wider sum is the difference itself
  have hE := toInt_add_neg (a :: a :: x) (b :: b :: y) (by simp [h])
  obtain ⟨xlo, xhi⟩ := toInt_range a x
  obtain ⟨ylo, yhi⟩ := toInt_range b y
  rw [← h] at ylo yhi
  rw [toInt_sext, toInt_sext, List.length_cons, List.length_cons,
    bmod_eq_self _ _ (by rw [Int.pow_succ]; omega) (by rw [Int.pow_succ]; omega)] at hE
  have hlen : (a :: a :: x).length = (neg (b :: b :: y)).length := by simp [neg_length, h]
  obtain ⟨hflag, hval⟩ :=
    toInt_tail (add (a :: a :: x) (neg (b :: b :: y))).1 x.length ((add_length _ _ hlen).trans rfl)
  rw [hE] at hflag hval
  exact ⟨hflag, hval, sub_length _ _ true (by simp [h])⟩

end Arith
end GV
