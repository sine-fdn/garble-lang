import GarbleVerif.Model.Arith
/-! LSB-first numerals (`toNatLE`; `toNat` is the big-endian reading); the ripple adder, negation and the OR over a list of
bits against them, for every width; the tools `ind₂` and `foldl_count`. -/
namespace GV
namespace Arith

theorem ind₂ {α : Type} {motive : (xs ys : List α) → xs.length = ys.length → Prop}
    (nil : motive [] [] rfl)
    (cons : ∀ a b xs ys (h : xs.length = ys.length), motive xs ys h → motive (a :: xs) (b :: ys) (by simp [h])) :
    ∀ xs ys (h : xs.length = ys.length), motive xs ys h
  | [], [], _ => nil
  | [], _ :: _, h => by simp at h
  | _ :: _, [], h => by simp at h
  | a :: xs, b :: ys, h => cons a b xs ys (by simpa using h) (ind₂ nil cons xs ys (by simpa using h))

def toNatLE : List Bool → Nat
  | [] => 0
  | b :: bs => b.toNat + 2 * toNatLE bs

/-- value of a big-endian bit list -/
def toNat (bs : List Bool) : Nat := toNatLE bs.reverse

theorem toNatLE_reverse (l : List Bool) : toNatLE l.reverse = toNat l := rfl

theorem toNat_reverse (l : List Bool) : toNat l.reverse = toNatLE l := by rw [toNat, List.reverse_reverse]

theorem bOr_eq (x y : Bool) : bOr x y = (x || y) := by cases x <;> cases y <;> rfl

theorem mux_eq (s x0 x1 : Bool) : mux s x0 x1 = if s then x0 else x1 := by
  cases s <;> cases x0 <;> cases x1 <;> rfl

theorem zipWith_mux (s : Bool) (r d : List Bool) (h : r.length = d.length) :
    List.zipWith (mux s) r d = if s then r else d := by
  induction r, d, h using ind₂ with
  | nil => simp
  | cons a b r d h ih => cases s <;> simp_all [mux_eq]

theorem fullAdder_spec (x y c : Bool) :
    (fullAdder x y c).1.toNat + 2 * (fullAdder x y c).2.toNat = x.toNat + y.toNat + c.toNat := by
  cases x <;> cases y <;> cases c <;> decide

theorem addLE_length (xs ys : List Bool) (c : Bool) (h : xs.length = ys.length) :
    (addLE xs ys c).1.length = xs.length := by
  induction xs, ys, h using ind₂ generalizing c with
  | nil => rfl
  | cons x y xs ys h ih => simp only [addLE, List.length_cons, ih]

/-- **the ripple adder adds**: `sum + 2^n·carry = x + y + cin` -/
theorem addLE_spec (xs ys : List Bool) (c : Bool) (h : xs.length = ys.length) :
    toNatLE (addLE xs ys c).1 + 2 ^ xs.length * (addLE xs ys c).2.toNat
      = toNatLE xs + toNatLE ys + c.toNat := by
  induction xs, ys, h using ind₂ generalizing c with
  | nil => simp [addLE, toNatLE]
  | cons x y xs ys h ih =>
    have := ih (fullAdder x y c).2
    have fa := fullAdder_spec x y c
    simp only [addLE, toNatLE, List.length_cons, Nat.pow_succ, Nat.mul_right_comm _ 2 _]
    generalize addLE xs ys (fullAdder x y c).2 = r at this ⊢
    obtain ⟨rest, cf⟩ := r
    simp only at this ⊢
    omega

theorem toNatLE_lt (xs : List Bool) : toNatLE xs < 2 ^ xs.length := by
  induction xs with
  | nil => simp [toNatLE]
  | cons x xs ih =>
    have := Bool.toNat_lt x
    simp only [toNatLE, List.length_cons, Nat.pow_succ]
    omega

theorem toNatLE_zeros (ys : List Bool) : toNatLE (ys.map (fun _ => false)) = 0 := by
  induction ys with
  | nil => rfl
  | cons y ys ih => simp [toNatLE, ih]

theorem toNatLE_map_and (xb : Bool) (ys : List Bool) :
    toNatLE (ys.map (xb && ·)) = xb.toNat * toNatLE ys := by
  cases xb <;> simp [toNatLE_zeros]

theorem toNatLE_append (a b : List Bool) : toNatLE (a ++ b) = toNatLE a + 2 ^ a.length * toNatLE b := by
  induction a with
  | nil => simp [toNatLE]
  | cons x a ih =>
    simp only [List.cons_append, toNatLE, ih, List.length_cons, Nat.pow_succ, Nat.mul_right_comm _ 2 _]
    omega

theorem foldl_bOr (l : List Bool) (acc : Bool) : l.foldl bOr acc = (acc || l.any id) := by
  induction l generalizing acc with
  | nil => simp
  | cons a l ih => simp [ih, bOr_eq, Bool.or_assoc]

theorem any_iff_toNatLE (l : List Bool) : l.any id = true ↔ 0 < toNatLE l := by
  induction l with
  | nil => simp [toNatLE]
  | cons a l ih => cases a <;> simp [toNatLE, ih] <;> omega

theorem foldl_bOr_iff (l : List Bool) : l.foldl bOr false = true ↔ 0 < toNatLE l := by
  rw [foldl_bOr, Bool.false_or, any_iff_toNatLE]

theorem foldl_bOr_toNat (l : List Bool) : l.foldl bOr false = true ↔ 0 < toNat l := by
  rw [foldl_bOr, Bool.false_or, toNat, ← any_iff_toNatLE, List.any_reverse]

/-- a number written as high part `t` and low part `d < P`: the high part is non-zero exactly from `P` on -/
theorem hi_pos_iff {t d P : Nat} (hd : d < P) : 0 < t ↔ P ≤ t * P + d := by
  constructor
  · intro h
    have := Nat.le_mul_of_pos_left P h
    omega
  · intro h
    apply Nat.pos_of_ne_zero
    intro h0
    rw [h0, Nat.zero_mul] at h
    omega

theorem negLE_length (xs : List Bool) (c : Bool) : (negLE xs c).length = xs.length := by
  induction xs generalizing c with
  | nil => rfl
  | cons x xs ih => simp [negLE, ih]

theorem toNatLE_map_not (xs : List Bool) : toNatLE (xs.map (!·)) + toNatLE xs + 1 = 2 ^ xs.length := by
  induction xs with
  | nil => rfl
  | cons x xs ih =>
    have hx : (!x).toNat + x.toNat = 1 := by cases x <;> rfl
    simp only [List.map_cons, toNatLE, List.length_cons, Nat.pow_succ]
    omega

theorem negLE_false (xs : List Bool) : negLE xs false = xs.map (!·) := by
  induction xs with
  | nil => rfl
  | cons x xs ih => simp [negLE, ih]

/-- **negation**: `neg x = 2^n - x` (mod `2^n`) -/
theorem negLE_true (xs : List Bool) :
    toNatLE (negLE xs true) = (2 ^ xs.length - toNatLE xs) % 2 ^ xs.length := by
  induction xs with
  | nil => rfl
  | cons x xs ih =>
    have hlt := toNatLE_lt xs
    simp only [negLE, toNatLE, List.length_cons, Nat.pow_succ]
    cases x
    · -- a zero bit passes the carry on
      simp only [Bool.not_false, Bool.and_true, Bool.xor_self, Bool.toNat_false, Nat.zero_add, ih]
      rw [← Nat.mul_mod_mul_left, Nat.mul_comm _ 2, Nat.mul_sub]
    · -- a one bit absorbs it: the rest is only flipped
      have := toNatLE_map_not xs
      simp only [Bool.not_true, Bool.and_false, Bool.bne_false, Bool.toNat_true, negLE_false]
      rw [Nat.mod_eq_of_lt (by omega)]
      omega

/-- a fold whose invariant counts the steps -/
theorem foldl_count {α β : Type} (f : α → β → α) (Inv : Nat → α → Prop)
    (step : ∀ m a b, Inv m a → Inv (m + 1) (f a b)) :
    ∀ (l : List β) (m : Nat) (a : α), Inv m a → Inv (m + l.length) (l.foldl f a)
  | [], _, _, h => h
  | b :: l, m, a, h => by
    have := foldl_count f Inv step l (m + 1) (f a b) (step m a b h)
    rwa [Nat.add_assoc, Nat.add_comm 1] at this

end Arith
end GV
