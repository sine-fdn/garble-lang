import GarbleVerif.Model.SrcSem
import GarbleVerif.Proofs.Encoding
/-! Structural equality of well-typed values of one type is equality of their encodings: what `==` on aggregates
compares, bit by bit. On values of one type `Val.beq` is equality (`Val.beq_iff_eq`: it skips the names and flags that
the type fixes), and the encoding can be decoded again, so values with the same encoding are the same
(`Val.encode_inj`). -/
namespace GV
namespace Src

theorem find?_same_index : ∀ (vs : Variants) (a b : String) (i : Nat) (u u' : Bool) (f f' : TyList),
    vs.find? a = some (i, u, f) → vs.find? b = some (i, u', f') → a = b := fun _ _ _ _ _ _ _ _ ha hb => by
  cases (Variants.get?_of_find? ha).symm.trans (Variants.get?_of_find? hb)
  rfl

mutual
theorem Val.beq_refl : ∀ v : Val, Val.beq v v = true
  | .bool _ | .int _ => by simp [Val.beq]
  | .array vs | .tuple vs => ValList.beq_refl vs
  | .struct _ fvs => FieldVals.beq_refl fvs
  | .enum _ _ _ vs => by simp [Val.beq, ValList.beq_refl vs]
theorem ValList.beq_refl : ∀ vs : ValList, ValList.beq vs vs = true
  | .nil => rfl
  | .cons v r => by simp [ValList.beq, Val.beq_refl v, ValList.beq_refl r]
theorem FieldVals.beq_refl : ∀ fvs : FieldVals, FieldVals.beq fvs fvs = true
  | .nil => rfl
  | .cons _ v r => by simp [FieldVals.beq, Val.beq_refl v, FieldVals.beq_refl r]
end

/- `beq` of values of different shapes is `false` by computation (`cases hb`); for equal shapes the typing of the
second value gives back what `beq` does not look at. -/
theorem eq_of_beq_cases : TypedCases (fun x t => ∀ y, y.hasType t = true → Val.beq x y = true → x = y)
    (fun vs t => ∀ ws, ws.allHaveType t = true → ValList.beq vs ws = true → vs = ws)
    (fun vs ts => ∀ ws, ws.haveTypes ts = true → ValList.beq vs ws = true → vs = ws)
    (fun vs fs => ∀ ws, ws.haveTypes fs = true → FieldVals.beq vs ws = true → vs = ws) where
  bool a y _ hb := by
    cases y with
    | bool b => rw [beq_iff_eq.mp hb]
    | _ => cases hb
  int a _ _ y _ hb := by
    cases y with
    | int b => rw [beq_iff_eq.mp hb]
    | _ => cases hb
  array vs t _ ih y hy hb := by
    cases y with
    | array ws =>
      simp only [Val.hasType, Bool.and_eq_true] at hy
      rw [ih ws hy.2 hb]
    | _ => cases hb
  tuple vs ts _ ih y hy hb := by
    cases y with
    | tuple ws => rw [ih ws hy hb]
    | _ => cases hb
  struct name fvs fs _ ih y hy hb := by
    cases y with
    | struct m fws =>
      simp only [Val.hasType, Bool.and_eq_true, beq_iff_eq] at hy
      rw [ih fws hy.2 hb, hy.1]
    | _ => cases hb
  enum name variant variants i u fts vs hf _ ih y hy hb := by
    cases y with
    | enum m w u' ws =>
      simp only [Val.beq, Bool.and_eq_true, beq_iff_eq] at hb
      obtain ⟨rfl, hb⟩ := hb
      simp only [Val.hasType, hf, Bool.and_eq_true, beq_iff_eq] at hy
      rw [ih ws hy.2.2 hb, hy.1, hy.2.1]
    | _ => cases hb
  allNil _ ws _ hb := by
    cases ws with
    | nil => rfl
    | cons _ _ => cases hb
  allCons v r t _ _ ihv ihr ws hw hb := by
    cases ws with
    | nil => cases hb
    | cons w ws =>
      simp only [ValList.allHaveType, ValList.beq, Bool.and_eq_true] at hw hb
      rw [ihv w hw.1 hb.1, ihr ws hw.2 hb.2]
  eachNil ws _ hb := by
    cases ws with
    | nil => rfl
    | cons _ _ => cases hb
  eachCons v r t ts _ _ ihv ihr ws hw hb := by
    cases ws with
    | nil => cases hb
    | cons w ws =>
      simp only [ValList.haveTypes, ValList.beq, Bool.and_eq_true] at hw hb
      rw [ihv w hw.1 hb.1, ihr ws hw.2 hb.2]
  fieldsNil ws _ hb := by
    cases ws with
    | nil => rfl
    | cons _ _ _ => cases hb
  fieldsCons n v r t ts _ _ ihv ihr ws hw hb := by
    cases ws with
    | nil => cases hb
    | cons m w ws =>
      simp only [FieldVals.haveTypes, FieldVals.beq, Bool.and_eq_true, beq_iff_eq] at hw hb
      rw [ihv w hw.1.2 hb.1.2, ihr ws hw.2 hb.2, hb.1.1]

theorem Val.beq_iff_eq {x y : Val} {t : Ty} (hx : x.hasType t = true) (hy : y.hasType t = true) :
    Val.beq x y = true ↔ x = y :=
  ⟨eq_of_beq_cases.val x t hx y hy, fun h => h ▸ Val.beq_refl x⟩

theorem beq_encode : ∀ (x y : Val) (t : Ty), x.hasType t = true → y.hasType t = true →
    (Val.beq x y = true ↔ x.encode t = y.encode t) := fun _ _ t hx hy =>
  (Val.beq_iff_eq hx hy).trans ⟨congrArg (Val.encode · t), Val.encode_inj hx hy⟩

theorem beqAll_encode : ∀ (vs ws : ValList) (t : Ty), vs.allHaveType t = true → ws.allHaveType t = true →
    vs.length = ws.length → (ValList.beq vs ws = true ↔ vs.encodeAll t = ws.encodeAll t) := fun vs ws t hx hy hl =>
  ⟨fun hb => by rw [eq_of_beq_cases.all vs t hx ws hy hb],
   fun he => by
    rw [eq_of_decode (ValList.decodeN_encodeAll vs t hx) (hl ▸ ValList.decodeN_encodeAll ws t hy) he]
    exact ValList.beq_refl ws⟩

theorem beqEach_encode : ∀ (vs ws : ValList) (ts : TyList), vs.haveTypes ts = true → ws.haveTypes ts = true →
    (ValList.beq vs ws = true ↔ vs.encodeEach ts = ws.encodeEach ts) := fun vs ws ts hx hy =>
  ⟨fun hb => by rw [eq_of_beq_cases.each vs ts hx ws hy hb],
   fun he => by
    rw [eq_of_decode (ValList.decodeEach_encodeEach vs ts [] hx) (ValList.decodeEach_encodeEach ws ts [] hy)
      (congrArg (· ++ []) he)]
    exact ValList.beq_refl ws⟩

theorem beqFields_encode : ∀ (vs ws : FieldVals) (fs : Fields), vs.haveTypes fs = true → ws.haveTypes fs = true →
    (FieldVals.beq vs ws = true ↔ vs.encodeEach fs = ws.encodeEach fs) := fun vs ws fs hx hy =>
  ⟨fun hb => by rw [eq_of_beq_cases.fields vs fs hx ws hy hb],
   fun he => by
    rw [eq_of_decode (FieldVals.decodeEach_encodeEach vs fs [] hx) (FieldVals.decodeEach_encodeEach ws fs [] hy)
      (congrArg (· ++ []) he)]
    exact FieldVals.beq_refl ws⟩

end Src
end GV
