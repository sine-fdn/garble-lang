import GarbleVerif.Proofs.ArithDiv
import GarbleVerif.Proofs.ArithMul
/-!
# Signed multiplication: magnitudes multiplied, sign restored, overflow exactly when the product is not representable
-/
namespace GV
namespace Arith

theorem mul_signed_cons (a b : Bool) (x y : List Bool) :
    mul (a :: x) (b :: y) true =
      let m := mul (if a then neg (a :: x) else a :: x) (if b then neg (b :: y) else b :: y) false
      let tooLarge := m.1.headD false && !(m.1.tail.foldl (fun acc w => acc && !w) true && (a ^^ b))
      (if (a ^^ b) then neg m.1 else m.1, bOr m.2 tooLarge) := by
  simp only [mul, if_true, Bool.false_eq_true, if_false, List.headD_cons]
  rw [zip_mux _ _ _ (neg_length _), zip_mux _ _ _ (neg_length _), zip_mux _ _ _ (neg_length _)]

/-- the check on the top bit `hd` of an unsigned product `hd·Q + T`: it may be set only if the rest is zero and the
result is negated (that is the minimum value) -/
theorem tooLarge_iff (hd isNeg : Bool) (T Q : Nat) (hT : T < Q) :
    (hd && !(decide (T = 0) && isNeg)) = true ↔
      (if isNeg then Q < hd.toNat * Q + T else Q ≤ hd.toNat * Q + T) := by
  cases isNeg <;> cases hd <;> simp <;> omega

/-- the part after the magnitudes have been multiplied: `R` with the flag `ovfU` is their product `P` as `mul_unsigned`
describes it; it is put back under the sign, and flagged when it does not fit (`2^n` itself fits only under a minus sign) -/
theorem mul_signed_core (R : List Bool) (ovfU isNeg : Bool) (n P : Nat) (hRl : R.length = n + 1)
    (hRv : ovfU = false → toNat R = P) (hRo : ovfU = true ↔ 2 ^ (n + 1) ≤ P) :
    let tooLarge := R.headD false && !(R.tail.foldl (fun acc w => acc && !w) true && isNeg)
    let res := if isNeg then neg R else R
    let flag := bOr ovfU tooLarge
    (flag = false → toInt res = if isNeg then -(P : Int) else (P : Int)) ∧
    (flag = true ↔ (if isNeg then 2 ^ n < P else 2 ^ n ≤ P)) := by
  rw [Nat.pow_succ] at hRo
  intro tooLarge res flag
  have hflag : flag = true ↔ (if isNeg then 2 ^ n < P else 2 ^ n ≤ P) := by
    obtain ⟨hd, tl, rfl, htl⟩ := exists_cons_of_length hRl
    have htlt := toNat_lt tl
    rw [htl] at htlt
    simp only [flag, tooLarge, List.headD_cons, List.tail_cons, foldl_allZero, Bool.true_and, bOr_eq]
    cases hov : ovfU
    · rw [Bool.false_or, ← hRv hov, toNat_cons, htl]
      exact tooLarge_iff hd isNeg _ _ htlt
    · have := hRo.1 hov
      cases isNeg <;> simp <;> omega
  refine ⟨fun hf => ?_, hflag⟩
  have hno : ¬ (if isNeg then 2 ^ n < P else 2 ^ n ≤ P) := fun h => by rw [hflag.2 h] at hf; cases hf
  have hU : ovfU = false := by
    cases ovfU
    · rfl
    · exact absurd hf (by simp [flag, bOr_eq])
  rw [← hRv hU] at hno ⊢
  exact toInt_signMag isNeg R n hRl (by cases isNeg <;> simp at hno <;> omega)
    (fun hs => by rw [hs] at hno; simpa using hno)

theorem mul_signMag (sa sb : Bool) (A B : Nat) :
    (if sa then -(A : Int) else A) * (if sb then -(B : Int) else B) =
      if sa ^^ sb then -((A * B : Nat) : Int) else ((A * B : Nat) : Int) := by
  cases sa <;> cases sb <;> simp [Int.neg_mul, Int.mul_neg]

/-- **signed multiplication, all widths** (`n + 1` bits): the result is the exact product unless the flag
is set, and the flag is set exactly when the exact product is outside `[-2^n, 2^n)` -/
theorem mul_signed (a b : Bool) (x y : List Bool) (h : x.length = y.length) :
    let r := mul (a :: x) (b :: y) true
    (r.2 = false → toInt r.1 = toInt (a :: x) * toInt (b :: y)) ∧
    (r.2 = true ↔ (toInt (a :: x) * toInt (b :: y) < -(2 : Int) ^ x.length ∨
      (2 : Int) ^ x.length ≤ toInt (a :: x) * toInt (b :: y))) := by
  intro r
  have hr : r = _ := mul_signed_cons a b x y
  have hlxa : (if a then neg (a :: x) else a :: x).length = x.length + 1 := ite_neg_length _ _
  obtain ⟨hRl, hRv, hRo⟩ := mul_unsigned (if a then neg (a :: x) else a :: x) (if b then neg (b :: y) else b :: y)
    (by rw [ite_neg_length, ite_neg_length, List.length_cons, List.length_cons, h]) (by rw [hlxa]; omega)
  rw [hlxa] at hRl hRo
  have hc := mul_signed_core _ _ (a ^^ b) x.length _ hRl hRv hRo
  rw [hr, (abs_cases a x).2.1, (abs_cases b y).2.1, mul_signMag, ← two_pow_cast]
  refine ⟨hc.1, hc.2.trans ?_⟩
  generalize toNat (if a then neg (a :: x) else a :: x) * toNat (if b then neg (b :: y) else b :: y) = P
  have hQ := Nat.two_pow_pos x.length
  generalize 2 ^ x.length = Q at hQ ⊢
  cases (a ^^ b) <;> simp <;> omega

theorem mul_signed_length (a b : Bool) (x y : List Bool) (h : x.length = y.length) :
    (mul (a :: x) (b :: y) true).1.length = x.length + 1 := by
  rw [mul_signed_cons]
  dsimp only
  rw [ite_neg_length, mul_unsigned_length _ _ (by rw [ite_neg_length, ite_neg_length, List.length_cons, List.length_cons, h])
    (by rw [ite_neg_length]; simp), ite_neg_length, List.length_cons]

theorem mul_length (x y : List Bool) (s : Bool) (h : x.length = y.length) (hn : 0 < x.length) :
    (mul x y s).1.length = x.length := by
  cases s
  · exact mul_unsigned_length x y h hn
  · match x, y with
    | a :: x, b :: y => exact mul_signed_length a b x y (Nat.succ.inj h)

end Arith
end GV
