import GarbleVerif.Proofs.Mark
import GarbleVerif.Proofs.Renumber
import GarbleVerif.Proofs.SsaEval
/-! Assembly: `build` (mark, compact, renumber) followed by the *checked* SSA evaluator
returns the builder semantics of every requested wire. -/
namespace GV
namespace Builder

/-! ### checked evaluator = `getD` evaluator on well-formed gate lists -/

theorem evalGate_eq_sgateVal {ws : List Bool} {g : Gate} (h : Circuit.gateOk g ws.length = true) :
    Circuit.evalGate ws g = some (sgateVal ws g) := by
  cases g with
  | xor x y =>
    simp only [Circuit.gateOk, Bool.and_eq_true, decide_eq_true_eq] at h
    simp only [Circuit.evalGate, getElem?_eq_some_getD h.1 false, getElem?_eq_some_getD h.2 false]; rfl
  | and x y =>
    simp only [Circuit.gateOk, Bool.and_eq_true, decide_eq_true_eq] at h
    simp only [Circuit.evalGate, getElem?_eq_some_getD h.1 false, getElem?_eq_some_getD h.2 false]; rfl
  | not x =>
    simp only [Circuit.gateOk, decide_eq_true_eq] at h
    simp only [Circuit.evalGate, getElem?_eq_some_getD h false]; rfl

theorem evalGates_eq_svals (gs : List Gate) (ws : List Bool)
    (h : ∀ i g, gs[i]? = some g → Circuit.gateOk g (ws.length + i) = true) :
    Circuit.evalGates gs ws = some (svalsFrom ws gs) := by
  induction gs generalizing ws with
  | nil => rfl
  | cons g gs ih =>
    rw [Circuit.evalGates, evalGate_eq_sgateVal (h 0 g rfl)]
    refine ih (ws ++ [sgateVal ws g]) fun i g' hi => ?_
    rw [List.length_append, List.length_singleton, Nat.add_assoc, Nat.add_comm 1 i]
    exact h (i + 1) g' hi

theorem validateGates_of_ok (gs : List Gate) (n : Nat)
    (h : ∀ i g, gs[i]? = some g → Circuit.gateOk g (n + i) = true) :
    Circuit.validateGates gs n = .ok () :=
  Circuit.validateGates_eq_ok.mpr h

theorem convGate_ok {shift n : Nat} (hs : 2 ≤ shift) (hn : shift ≤ n) {g : BGate} (hg : opsLt g n) :
    Circuit.gateOk (convGate shift g) n = true := by
  cases g with
  | xor x y =>
    obtain ⟨hx, hy⟩ := hg
    simp only [convGate]
    split
    · simp [Circuit.gateOk, fIdx_lt hs hn hy]
    · split
      · simp [Circuit.gateOk, fIdx_lt hs hn hx]
      · simp [Circuit.gateOk, fIdx_lt hs hn hx, fIdx_lt hs hn hy]
  | and x y =>
    obtain ⟨hx, hy⟩ := hg
    simp [convGate, Circuit.gateOk, fIdx_lt hs hn hx, fIdx_lt hs hn hy]

theorem finalGates_ok (ninp : Nat) (hpos : 0 < ninp) (cg : List BGate)
    (hwf : ∀ i g, cg[i]? = some g → opsLt g (ninp + 2 + i)) :
    ∀ i g, (Gate.xor 0 0 :: Gate.not ninp :: cg.map (convGate (ninp + 2)))[i]? = some g →
      Circuit.gateOk g (ninp + i) = true := by
  intro i g h
  match i with
  | 0 => cases h; simp [Circuit.gateOk, hpos]
  | 1 => cases h; simp [Circuit.gateOk]
  | i + 2 =>
    rw [List.getElem?_cons_succ, List.getElem?_cons_succ, List.getElem?_map, Option.map_eq_some_iff] at h
    obtain ⟨g0, hc, rfl⟩ := h
    rw [← Nat.add_assoc, Nat.add_right_comm]
    exact convGate_ok (Nat.le_add_left 2 ninp) (Nat.le_add_right _ _) (hwf i g0 hc)

theorem finalWire_inp {shift : Nat} (used : List Bool) {w : Nat} (h2 : 2 ≤ w) (hw : w < shift) :
    fIdx shift (remap shift used w) = w - 2 := by
  rw [remap_of_lt used hw, fIdx_inp h2 hw]

theorem finalWire_gate {shift : Nat} {used : List Bool} {w : Nat} (hs : 2 ≤ shift) (hw : shift ≤ w)
    (hu : used.getD (w - shift) false = true) :
    fIdx shift (remap shift used w) = shift + newPos used (w - shift) := by
  rw [remap_of_ge hw hu, fIdx_gate hs (Nat.le_add_right _ _)]

theorem finalWire_inj {shift : Nat} {used : List Bool} (hs : 2 ≤ shift) {w1 w2 : Nat} (h1 : 2 ≤ w1) (h2 : 2 ≤ w2)
    (hu1 : Kept shift used w1) (hu2 : Kept shift used w2)
    (h : fIdx shift (remap shift used w1) = fIdx shift (remap shift used w2)) : w1 = w2 := by
  have cancel : ∀ {a b c : Nat}, c ≤ a → c ≤ b → a - c = b - c → a = b := fun ha hb e => by
    rw [← Nat.sub_add_cancel ha, e, Nat.sub_add_cancel hb]
  -- an input goes below `shift - 2`, a gate to `shift` or above
  have mixed : ∀ {w n : Nat}, w < shift → w - 2 ≠ shift + n := fun hw e =>
    Nat.lt_irrefl _ (Nat.lt_of_le_of_lt (Nat.le_add_right shift _) (e ▸ Nat.lt_of_le_of_lt (Nat.sub_le _ 2) hw))
  rcases Nat.lt_or_ge w1 shift with a1 | a1 <;> rcases Nat.lt_or_ge w2 shift with a2 | a2
  · rw [finalWire_inp used h1 a1, finalWire_inp used h2 a2] at h; exact cancel h1 h2 h
  · rw [finalWire_inp used h1 a1, finalWire_gate hs a2 (hu2 a2)] at h; exact absurd h (mixed a1)
  · rw [finalWire_gate hs a1 (hu1 a1), finalWire_inp used h2 a2] at h; exact absurd h.symm (mixed a2)
  · rw [finalWire_gate hs a1 (hu1 a1), finalWire_gate hs a2 (hu2 a2)] at h
    exact cancel a1 a2 (newPos_inj (hu1 a1) (hu2 a2) (Nat.add_left_cancel h))

/-- after the two constant gates, the built circuit holds exactly the used gates: gate `p` of the builder,
converted, at position `newPos used p + 2` -/
theorem build_gates_getElem? (b : Builder) (ig pw outs : List Nat) (i : Nat) (g : Gate) :
    (b.build ig pw outs).gates[i + 2]? = some g ↔
      ∃ p g0, b.gates[p]? = some g0 ∧ (mark b.shift b.gates (outs ++ pw)).getD p false = true ∧
        newPos (mark b.shift b.gates (outs ++ pw)) p = i ∧
        g = convGate b.shift (mapOps (remap b.shift (mark b.shift b.gates (outs ++ pw))) g0) := by
  show ((compact b.shift _ b.gates).map (convGate b.shift))[i]? = some g ↔ _
  rw [List.getElem?_map, Option.map_eq_some_iff]
  constructor
  · rintro ⟨g', hg', rfl⟩
    obtain ⟨p, g0, h1, h2, h3, rfl⟩ := (compact_getElem? ..).mp hg'
    exact ⟨p, g0, h1, h2, h3, rfl⟩
  · rintro ⟨p, g0, h1, h2, h3, rfl⟩
    exact ⟨_, (compact_getElem? ..).mpr ⟨p, g0, h1, h2, h3, rfl⟩, rfl⟩

structure BuildPre (b : Builder) (inputGates : List Nat) (roots : List Nat) : Prop where
  wf : WF b
  shift : b.shift = inputGates.sum + 2
  pos : 0 < inputGates.sum
  roots : ∀ r, r ∈ roots → r < b.counter

theorem vals_eq_getD (b : Builder) (inp : List Bool) (w : Nat) : b.sem inp w = (b.vals inp).getD w false := rfl

/-- For every root wire, the final circuit (getD evaluator) carries the builder's value — also without inputs,
which only the checked evaluator needs. -/
theorem build_wire (b : Builder) (roots : List Nat) (hb : WF b) (hr : ∀ r, r ∈ roots → r < b.counter)
    (inp : List Bool) (hinp : inp.length + 2 = b.shift) :
    let used := mark b.shift b.gates roots
    let cg := compact b.shift used b.gates
    let sv := svalsFrom inp (.xor 0 0 :: .not (b.shift - 2) :: cg.map (convGate b.shift))
    (∀ i g, cg[i]? = some g → opsLt g (b.shift + i)) ∧
    sv.length = b.shift + cg.length ∧
    ∀ r, r ∈ roots → fIdx b.shift (remap b.shift used r) < sv.length ∧
      sv.getD (fIdx b.shift (remap b.shift used r)) false = b.sem inp r := by
  intro used cg sv
  obtain ⟨-, hcl, hroots⟩ := mark_spec b.shift b.gates roots hb.ops
  have hwf' := compact_wf hcl hb.ops
  have hren := renumber_rel inp cg (by rw [hinp]; exact hwf')
  simp only [hinp] at hren
  obtain ⟨hsl, hmap⟩ := hren
  have hcvlen : (valsFrom (false :: true :: inp) cg).length = b.shift + cg.length := by
    rw [valsFrom_length, ← hinp]; rfl
  refine ⟨hwf', by rw [hsl, hcvlen], fun r hm => ?_⟩
  have hrc : r < b.shift + b.gates.length := hr r hm
  have hk : Kept b.shift used r := fun hs => hroots r hm hs hrc
  have hlt : remap b.shift used r < (valsFrom (false :: true :: inp) cg).length := by
    rw [hcvlen, compact_length]; exact remap_lt hrc hk
  exact ⟨by rw [hsl]; exact fIdx_lt hb.shift2 (by rw [hcvlen]; exact Nat.le_add_right _ _) hlt,
    by rw [hmap _ hlt, compact_val hcl hb.ops (false :: true :: inp) hinp r hrc hk]; rfl⟩

theorem mapM_roots {ws : List Bool} {rs : List Nat} {f : Nat → Nat} {v : Nat → Bool}
    (h : ∀ r, r ∈ rs → f r < ws.length ∧ ws.getD (f r) false = v r) :
    (rs.map f).mapM (fun o => ws[o]?) = some (rs.map v) := by
  induction rs with
  | nil => rfl
  | cons r rs ih =>
    obtain ⟨h1, h2⟩ := h r (.head _)
    exact mapM_cons_eq_some.mpr ⟨v r, rs.map v, h2 ▸ getElem?_eq_some_getD h1 false,
      ih fun x hx => h x (.tail _ hx), rfl⟩

/-- **`build` is sound** with respect to the checked SSA evaluator. -/
theorem build_sound (b : Builder) (ig : List Nat) (pw outs : List Nat) (hp : BuildPre b ig (outs ++ pw))
    (ins : List (List Bool)) (hs : Circuit.shapeOk ig ins = true) :
    (b.build ig pw outs).eval? ins = some ((pw ++ outs).map (b.sem ins.flatten)) := by
  have hfl := Circuit.flatten_length_of_shapeOk hs
  have hinp : ins.flatten.length + 2 = b.shift := by rw [hfl, hp.shift]
  obtain ⟨hwf', hsvl, hroot⟩ := build_wire b (outs ++ pw) hp.wf hp.roots ins.flatten hinp
  have hpos : 0 < ins.flatten.length := by rw [hfl]; exact hp.pos
  have hsh2 : b.shift - 2 = ins.flatten.length := by rw [← hinp, Nat.add_sub_cancel]
  have hok := finalGates_ok ins.flatten.length hpos _ (by rw [hinp]; exact hwf')
  rw [hinp] at hok
  have hev := evalGates_eq_svals _ ins.flatten hok
  rw [hsh2] at hroot
  simp only [Circuit.eval?, build, hs, Bool.not_true, Bool.false_eq_true, if_false]
  rw [hsh2, hev]
  simp only
  -- the roots of `mark` are `outs ++ pw`, the output list is `pw ++ outs`
  show ((pw.map _ ++ outs.map _).mapM fun o => _[o]?) = some ((pw ++ outs).map (b.sem ins.flatten))
  rw [← List.map_append]
  apply mapM_roots
  intro r hr
  have hr' : r ∈ outs ++ pw := by
    simp only [List.mem_append] at hr ⊢
    exact hr.symm
  exact hroot r hr'

end Builder
end GV
