import GarbleVerif.Model.Ssa
import GarbleVerif.Proofs.Util
/-! What `validate` checks, gate by gate, and why a validated SSA circuit evaluates without hitting an undefined wire. -/
namespace GV
namespace Circuit

theorem flatten_length_of_shapeOk {sizes : List Nat} {ins : List (List Bool)}
    (h : shapeOk sizes ins = true) : ins.flatten.length = sizes.sum := by
  simp only [shapeOk, beq_iff_eq] at h
  subst h
  induction ins with
  | nil => simp
  | cons a as ih => simp [ih]

@[simp] theorem validateGates_cons (g : Gate) (gs : List Gate) (i : Nat) :
    validateGates (g :: gs) i = .ok () ↔ gateOk g i = true ∧ validateGates gs (i + 1) = .ok () := by
  by_cases h : gateOk g i = true <;> simp [validateGates, h]

theorem validateGates_eq_ok {gs : List Gate} {i : Nat} :
    validateGates gs i = .ok () ↔ ∀ j g, gs[j]? = some g → gateOk g (i + j) = true := by
  induction gs generalizing i with
  | nil => simp [validateGates]
  | cons g0 gs ih =>
    rw [validateGates_cons, ih]
    constructor
    · rintro ⟨h0, h⟩ j g hj
      cases j with
      | zero => cases hj; exact h0
      | succ j => exact Nat.add_right_comm i 1 j ▸ h j g hj
    · exact fun h => ⟨h 0 g0 rfl, fun j g hj => Nat.add_right_comm i 1 j ▸ h (j + 1) g hj⟩

theorem validateGates_append {a b : List Gate} {i : Nat} (ha : validateGates a i = .ok ())
    (hb : validateGates b (i + a.length) = .ok ()) : validateGates (a ++ b) i = .ok () := by
  induction a generalizing i with
  | nil => simpa using hb
  | cons g a ih =>
    obtain ⟨h0, ha⟩ := (validateGates_cons ..).mp ha
    rw [List.length_cons, ← Nat.add_assoc, Nat.add_right_comm] at hb
    simp [h0, ih ha hb]

theorem validateOutputs_eq_ok {n : Nat} {os : List Nat} :
    validateOutputs n os = .ok () ↔ ∀ o ∈ os, o < n := by
  induction os with
  | nil => simp [validateOutputs]
  | cons o os ih => by_cases h : o < n <;> simp [validateOutputs, h, ih]

/-- everything `validate` has checked when it answers `ok` -/
theorem validate_ok {c : Circuit} (hv : c.validate = .ok ()) :
    c.inputGates ≠ [] ∧ validateGates c.gates c.totalInputs = .ok () ∧ c.outputGates ≠ [] ∧
    (∀ o ∈ c.outputGates, o < c.wiresLen) ∧ c.wiresLen + c.totalInputs ≤ MAX_GATES := by
  unfold validate at hv
  obtain ⟨hi, hv⟩ := ite_error_eq_ok.mp hv
  split at hv
  · cases hv
  · rename_i hg
    obtain ⟨ho, hv⟩ := ite_error_eq_ok.mp hv
    split at hv
    · cases hv
    · rename_i hos
      exact ⟨by simpa using hi, hg, by simpa using ho, validateOutputs_eq_ok.mp hos,
        Nat.not_lt.mp (ite_error_eq_ok.mp hv).1⟩

theorem evalGates_append (a b : List Gate) (ws : List Bool) :
    evalGates (a ++ b) ws = (evalGates a ws).bind (evalGates b) := by
  induction a generalizing ws with
  | nil => simp [evalGates]
  | cons g a ih =>
    simp only [List.cons_append, evalGates]
    cases evalGate ws g with
    | none => simp
    | some v => simp [ih]

theorem evalGate_some {ws : List Bool} {g : Gate} (h : gateOk g ws.length = true) :
    ∃ v, evalGate ws g = some v := by
  cases g <;> simp only [gateOk, Bool.and_eq_true, decide_eq_true_eq] at h <;>
    simp [evalGate, h]

theorem evalGates_some (gs : List Gate) (ws : List Bool)
    (h : validateGates gs ws.length = .ok ()) :
    ∃ out, evalGates gs ws = some out ∧ out.length = ws.length + gs.length := by
  induction gs generalizing ws with
  | nil => exact ⟨ws, rfl, by simp⟩
  | cons g gs ih =>
    obtain ⟨hg, h⟩ := (validateGates_cons ..).mp h
    obtain ⟨v, hv⟩ := evalGate_some hg
    obtain ⟨out, ho, hl⟩ := ih (ws ++ [v]) (by simpa using h)
    exact ⟨out, by simp [evalGates, hv, ho], by
      rw [hl, List.length_append, List.length_singleton, List.length_cons, Nat.add_assoc, Nat.add_comm 1]⟩

theorem eval?_of_validate {c : Circuit} {ins : List (List Bool)} (hv : c.validate = .ok ())
    (hs : shapeOk c.inputGates ins = true) :
    ∃ ws out, evalGates c.gates ins.flatten = some ws ∧ ws.length = c.wiresLen ∧
      c.outputGates.mapM (fun o => ws[o]?) = some out ∧ out.length = c.outputGates.length ∧
      c.eval? ins = some out := by
  obtain ⟨_, hg, _, ho, _⟩ := validate_ok hv
  have hlen := flatten_length_of_shapeOk hs
  obtain ⟨ws, hws, hwl⟩ := evalGates_some c.gates ins.flatten (by rw [hlen]; exact hg)
  rw [hlen] at hwl
  obtain ⟨out, hout, hol⟩ := mapM_eq_some_of_forall (f := fun o => ws[o]?) (l := c.outputGates)
    fun o h => ⟨ws[o]'(hwl ▸ ho o h), List.getElem?_eq_getElem _⟩
  exact ⟨ws, out, hws, hwl, hout, hol, by simp [eval?, hs, hws, hout]⟩

end Circuit
end GV
