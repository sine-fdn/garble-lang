import GarbleVerif.Proofs.ArithCmp
import GarbleVerif.Proofs.Util
/-!
# The barrel shifter: eight layers compose to a shift by the amount; value of the shifted list
-/
namespace GV
namespace Arith

/-- shift left by `k` positions (big-endian list: towards the head), zeros enter at the end -/
def shlL (k : Nat) (bits : List Bool) : List Bool :=
  (List.range bits.length).map fun i => if i + k ≥ bits.length then false else bits.getD (i + k) false

/-- shift right by `k` positions, `fill` enters at the head -/
def shrL (fill : Bool) (k : Nat) (bits : List Bool) : List Bool :=
  (List.range bits.length).map fun i => if i < k then fill else bits.getD (i - k) false

@[simp] theorem shlL_length (k : Nat) (bits : List Bool) : (shlL k bits).length = bits.length := by simp [shlL]
@[simp] theorem shrL_length (f : Bool) (k : Nat) (bits : List Bool) : (shrL f k bits).length = bits.length := by
  simp [shrL]

/-- beyond the end `getD` yields `false`, the bit that a left shift moves in: no bound on `i` is needed -/
theorem shlL_getD (k : Nat) (bits : List Bool) (i : Nat) : (shlL k bits).getD i false = bits.getD (i + k) false := by
  by_cases hi : i < bits.length
  · rw [shlL, getD_tab _ _ i hi]
    split
    · rw [getD_ge _ _ ‹_›]
    · rfl
  · rw [getD_ge _ _ (by rw [shlL_length]; omega), getD_ge _ _ (by omega)]

theorem shrL_getD (f : Bool) (k : Nat) (bits : List Bool) (i : Nat) (hi : i < bits.length) :
    (shrL f k bits).getD i false = if i < k then f else bits.getD (i - k) false :=
  getD_tab _ _ i hi

theorem shlL_zero (bits : List Bool) : shlL 0 bits = bits :=
  ext_getD (shlL_length 0 bits) fun i _ => shlL_getD 0 bits i

theorem shrL_zero (f : Bool) (bits : List Bool) : shrL f 0 bits = bits :=
  ext_getD (shrL_length f 0 bits) fun i hi => by
    rw [shrL_getD f 0 bits i (by simpa using hi), if_neg (Nat.not_lt_zero i)]
    rfl

theorem shlL_shlL (a b : Nat) (bits : List Bool) : shlL a (shlL b bits) = shlL (b + a) bits :=
  ext_getD (by simp) fun i _ => by rw [shlL_getD, shlL_getD, shlL_getD, Nat.add_assoc, Nat.add_comm a b]

theorem shrL_shrL (f : Bool) (a b : Nat) (bits : List Bool) : shrL f a (shrL f b bits) = shrL f (b + a) bits :=
  ext_getD (by simp) fun i hi => by
    have hi : i < bits.length := by simpa using hi
    rw [shrL_getD f a _ i (by simpa using hi), shrL_getD f (b + a) bits i hi]
    by_cases h : i < a
    · rw [if_pos h, if_pos (Nat.lt_of_lt_of_le h (Nat.le_add_left a b))]
    · rw [if_neg h, shrL_getD f b bits (i - a) (Nat.lt_of_le_of_lt (Nat.sub_le i a) hi)]
      simp only [Nat.sub_lt_iff_lt_add (Nat.le_of_not_lt h), Nat.sub_sub, Nat.add_comm a b]

theorem shiftLayer_eq (left fill : Bool) (bits : List Bool) (k : Nat) (s : Bool) :
    shiftLayer left fill bits k s =
      if left then shlL (s.toNat * k) bits else shrL fill (s.toNat * k) bits := by
  cases s
  · simp only [Bool.toNat_false, Nat.zero_mul, shlL_zero, shrL_zero, ite_self]
    unfold shiftLayer
    conv => rhs; rw [← range_map_getD bits]
    apply List.map_congr_left
    intro i _
    simp [mux_eq]
  · simp only [Bool.toNat_true, Nat.one_mul]
    unfold shiftLayer shlL shrL
    cases left <;> simp [mux_eq]

/-- layers for the bits `bs` of an amount (least significant first), the first one shifting by `w`: together they
shift by `w · bs` -/
theorem shift_fold (left fill : Bool) : ∀ (bs x : List Bool) (w : Nat),
    (bs.foldl (fun (acc : List Bool × Nat) b => (shiftLayer left fill acc.1 acc.2 b, acc.2 * 2)) (x, w)).1 =
      if left then shlL (w * toNatLE bs) x else shrL fill (w * toNatLE bs) x
  | [], x, w => by simp [toNatLE, shlL_zero, shrL_zero]
  | b :: bs, x, w => by
    have e : b.toNat * w + w * 2 * toNatLE bs = w * toNatLE (b :: bs) := by
      rw [toNatLE, Nat.mul_add, Nat.mul_assoc, Nat.mul_comm]
    rw [List.foldl_cons, shift_fold left fill bs, shiftLayer_eq]
    cases left
    · simp only [Bool.false_eq_true, if_false, shrL_shrL, e]
    · simp only [if_true, shlL_shlL, e]

theorem shift_res (left xSigned : Bool) (x y : List Bool) (hy : y.length = 8) :
    (shift left xSigned x y).1 =
      if left then shlL (toNat y) x
      else shrL (if xSigned && !left then x.headD false else false) (toNat y) x := by
  have hrev : y.reverse = (List.range 8).reverse.map (fun i => y.getD i false) := by
    rw [List.map_reverse, ← hy, range_map_getD]
  have := shift_fold left (if xSigned && !left then x.headD false else false) y.reverse x 1
  rw [Nat.one_mul, toNatLE_reverse, hrev, List.foldl_map] at this
  simp only [shift]
  exact this

theorem shlL_eq (k : Nat) (bits : List Bool) (hk : k ≤ bits.length) :
    shlL k bits = bits.drop k ++ List.replicate k false :=
  ext_getD (by simp; omega) fun i hi => by
    rw [shlL_getD, List.getD_eq_getElem?_getD, List.getD_eq_getElem?_getD, List.getElem?_append, List.length_drop]
    split
    · rw [List.getElem?_drop, Nat.add_comm]
    · rw [List.getElem?_replicate, List.getElem?_eq_none (by omega)]
      split <;> rfl

theorem shrL_eq (f : Bool) (k : Nat) (bits : List Bool) (hk : k ≤ bits.length) :
    shrL f k bits = List.replicate k f ++ bits.take (bits.length - k) :=
  ext_getD (by simp; omega) fun i hi => by
    have hi : i < bits.length := by simpa using hi
    rw [shrL_getD f k bits i hi, List.getD_eq_getElem?_getD, List.getD_eq_getElem?_getD, List.getElem?_append,
      List.length_replicate]
    by_cases h : i < k
    · rw [if_pos h, if_pos h, List.getElem?_replicate, if_pos h]
      rfl
    · rw [if_neg h, if_neg h, List.getElem?_take, if_pos (by omega)]

theorem shlL_val (k : Nat) (bits : List Bool) (hk : k ≤ bits.length) :
    toNat (shlL k bits) = (toNat bits * 2 ^ k) % 2 ^ bits.length := by
  have hd := toNat_drop bits (bits.length - k) (Nat.sub_le _ _)
  rw [Nat.sub_sub_self hk] at hd
  rw [shlL_eq k bits hk, toNat_append, toNat_replicate_false, List.length_replicate, Nat.add_zero, hd,
    ← Nat.pow_sub_mul_pow 2 hk, Nat.mul_mod_mul_right]

theorem shrL_val_unsigned (k : Nat) (bits : List Bool) (hk : k ≤ bits.length) :
    toNat (shrL false k bits) = toNat bits / 2 ^ k := by
  have hs := toNat_take_drop bits (bits.length - k)
  have hd := toNat_lt (bits.drop (bits.length - k))
  rw [List.length_drop, Nat.sub_sub_self hk] at hd
  rw [Nat.sub_sub_self hk] at hs
  rw [shrL_eq false k bits hk, toNat_append, toNat_replicate_false, Nat.zero_mul, Nat.zero_add, hs,
    Nat.mul_comm, Nat.mul_add_div (Nat.two_pow_pos k), Nat.div_eq_of_lt hd, Nat.add_zero]

theorem toInt_append (a : Bool) (p q : List Bool) :
    toInt (a :: (p ++ q)) = toInt (a :: p) * (2 : Int) ^ q.length + toNat q := by
  rw [toInt_cons, toInt_cons, toNat_append, List.length_append, Int.pow_add, Int.sub_mul, Int.mul_assoc]
  push_cast
  omega

theorem shrL_val_signed (a : Bool) (rest : List Bool) (k : Nat) (hk : k ≤ rest.length) :
    toInt (shrL a k (a :: rest)) = toInt (a :: rest) / (2 : Int) ^ k := by
  -- the result is the sign extension of the leading bits; the dropped `k` bits are the remainder
  have hd := toNat_lt (rest.drop (rest.length - k))
  rw [List.length_drop, Nat.sub_sub_self hk, ← Int.ofNat_lt, two_pow_cast] at hd
  have hval := toInt_append a (rest.take (rest.length - k)) (rest.drop (rest.length - k))
  rw [List.take_append_drop, List.length_drop, Nat.sub_sub_self hk] at hval
  rw [shrL_eq a k (a :: rest) (Nat.le_succ_of_le hk), List.length_cons, Nat.succ_sub hk, List.take_succ_cons,
    toInt_sext_append, hval, Int.add_comm, Int.add_mul_ediv_right _ _ (Int.ne_of_gt (Int.pow_pos (by decide))),
    Int.ediv_eq_zero_of_lt (Int.natCast_nonneg _) hd, Int.zero_add]

theorem shift_overflow (left sx : Bool) (x amt : List Bool) (hx : x.length ∈ [8, 16, 32, 64])
    (ha : amt.length = 8) : (shift left sx x amt).2 = true ↔ x.length ≤ toNat amt := by
  have key : ∀ s, (amt.take s).foldl bOr false = true ↔ 2 ^ (8 - s) ≤ toNat amt := fun s => by
    rw [← ha]; exact (toNat_drop_flag amt s).1
  simp only [List.mem_cons, List.not_mem_nil, or_false] at hx
  -- in each case the table gives `maxFilled` = log₂ width; `key` turns the OR of the leading `8 - maxFilled` bits into
  -- `2^maxFilled ≤ amount`, and `2^maxFilled` is the width
  rcases hx with h | h | h | h <;> simp only [shift, h] <;> rw [key] <;> simp

/-- **shifts**: overflow exactly when the amount is at least the width; otherwise `<<` multiplies by `2^amount`
modulo `2^n`, `>>` divides by `2^amount` rounding down (logical on unsigned, arithmetic on signed operands) -/
theorem shift_spec (left sx : Bool) (x amt : List Bool) (hx : x.length ∈ [8, 16, 32, 64]) (ha : amt.length = 8) :
    ((shift left sx x amt).2 = true ↔ x.length ≤ toNat amt) ∧
    (toNat amt < x.length →
      (left = true → toNat (shift left sx x amt).1 = (toNat x * 2 ^ toNat amt) % 2 ^ x.length) ∧
      (left = false → valOf sx (shift left sx x amt).1 = valOf sx x / (2 : Int) ^ toNat amt)) := by
  refine ⟨shift_overflow left sx x amt hx ha, ?_⟩
  intro hlt
  rw [shift_res left sx x amt ha]
  constructor
  · intro hl
    subst hl
    simp only [if_true]
    exact shlL_val _ _ (Nat.le_of_lt hlt)
  · intro hl
    subst hl
    simp only [Bool.false_eq_true, if_false, Bool.not_false, Bool.and_true]
    cases sx
    · simp only [Bool.false_eq_true, if_false, valOf]
      rw [shrL_val_unsigned _ _ (Nat.le_of_lt hlt), ← two_pow_cast, Int.natCast_ediv]
    · obtain ⟨a, rest, rfl⟩ := List.exists_cons_of_length_pos (Nat.zero_lt_of_lt hlt)
      simp only [if_true, valOf, List.headD_cons]
      exact shrL_val_signed a rest _ (Nat.le_of_lt_succ hlt)

end Arith
end GV
