import GarbleVerif.Model.BitSem
/-!
# The rules of the compiler model, read backwards

`Bit.bitExpr` and its companions are one nest of `match`es per syntactic form, with `none` in every branch that leaves
the model. Each lemma here takes a run that succeeded and hands back the one way it can have succeeded: the runs of the
subterms and the result in terms of theirs. Everything that is proved about the model by cases on the program (scope,
widths, staticness, refinement of the source semantics) starts its cases from these. Only `BitStatic`, which has to show
that a second run succeeds, also goes forwards, by unfolding the rule with the runs of the subterms as facts; a few rules
are stated forwards here (those without premises, `StrictSome.run`, `bitArms_cons_eq`, `bitStmt_for_eq` among them).

Where a part of a result is a circuit it is given as an equation `value = part`, the variable on the right:
`obtain ⟨…, rfl, rfl⟩` then substitutes without looking at the value (the other way round `rcases` normalises the value
first).

Most proofs are one script: unfold the rule (`dsimp only`; `simp only` is much slower to check here), split its matches — a
branch that leaves the model is `none = some _` —, take a guard out with `Option.ite_none_right_eq_some` (splitting an `if`
simplifies the whole rest of the rule under the new hypothesis) or, where the rule has only one, by `split`, read the parts
off the equation that is left.
-/
namespace GV
namespace Bit
open Src

variable {call : Ctx} {benv benv' : BEnv} {t : VTy} {bs : List Bool} {p : P}

/-! the rules without premises, forwards -/

theorem bitExpr_bool {b : Bool} : bitExpr call benv (.bool b) = some (.s .bool, [b], none, benv) := rfl
theorem bitExpr_unit : bitExpr call benv (.tuple .nil) = some (.unit, [], none, benv) := rfl
theorem bitList_nil : bitList call benv .nil = some ([], none, benv) := rfl
theorem bitFields_nil : bitFields call benv .nil = some ([], none, benv) := rfl
theorem bitArms_nil {benv1 : BEnv} {ts : Ty} {sb : List Bool} {st : ArmSt} : bitArms call benv1 ts sb .nil st = some st := rfl
theorem bitStmts_nil : bitStmts call benv .nil = some (.unit, [], none, benv) := rfl
theorem bitStmts_one {s : Stmt} : bitStmts call benv (.cons s .nil) = bitStmt call benv s := rfl
theorem bitStmt_expr {e : Expr} : bitStmt call benv (.expr e) = bitExpr call benv e := rfl
theorem patG_ident {x : String} {ty : Ty} : patG (.ident x) ty bs = some (true, [(x, VTy.ofTy ty, bs)]) := rfl
theorem fieldsG_nil {fs : Fields} : fieldsG .nil fs bs = some (true, []) := rfl
theorem foldLoop_nil {f : List Bool → BEnv → Option (P × BEnv)} {st : P × BEnv} : foldLoop f [] st = some st := rfl

section patterns
variable {ty : Ty} {m : Bool} {bb : BEnv}

theorem patG_tuple {ps : PatList} (h : patG (.tuple ps) ty bs = some (m, bb)) :
    ∃ ts, ty = .tuple ts ∧ patsG ps ts bs = some (m, bb) := by
  cases ty <;> dsimp only [patG] at h <;> try contradiction
  exact ⟨_, rfl, h⟩

theorem patG_struct {sn : String} {fps : FieldPats} (h : patG (.struct sn fps) ty bs = some (m, bb)) :
    ∃ sn' fs, ty = .struct sn' fs ∧ fieldsG fps fs bs = some (m, bb) := by
  cases ty <;> dsimp only [patG] at h <;> try contradiction
  exact ⟨_, _, rfl, h⟩

/-- a literal or range pattern on a scalar: the match bit of `patBits`, nothing bound -/
theorem patG_scalar {pat : Pat} (hp : (∃ b, pat = .bool b) ∨ (∃ n, pat = .int n) ∨ (∃ lo hi, pat = .range lo hi))
    (h : patG pat ty bs = some (m, bb)) :
    ∃ st bind, STy.ofTy ty = some st ∧ patBits pat st bs = some (m, bind) ∧ [] = bb := by
  rcases hp with ⟨_, rfl⟩ | ⟨_, rfl⟩ | ⟨_, _, rfl⟩
  all_goals
    cases ty <;> dsimp only [patG] at h <;> try contradiction
    split at h <;> try contradiction
    cases h
    exact ⟨_, _, rfl, ‹_›, rfl⟩

/-- a unit-variant pattern compares the tag -/
theorem patG_enumUnit {en v : String} (h : patG (.enumUnit en v) ty bs = some (m, bb)) :
    ∃ en' variants i u fts, ty = .enum en' variants ∧ variants.find? v = some (i, u, fts) ∧
      Arith.eqBits (natToBits i variants.tagSize) (bs.take variants.tagSize) = m ∧ [] = bb := by
  cases ty <;> dsimp only [patG] at h <;> try contradiction
  split at h <;> try contradiction
  cases h
  exact ⟨_, _, _, _, _, rfl, ‹_›, rfl, rfl⟩

/-- a tuple-variant pattern compares the tag and then matches the payload -/
theorem patG_enumTuple {en v : String} {ps : PatList} (h : patG (.enumTuple en v ps) ty bs = some (m, bb)) :
    ∃ en' variants i u fts m2, ty = .enum en' variants ∧ variants.find? v = some (i, u, fts) ∧
      patsG ps fts (bs.drop variants.tagSize) = some (m2, bb) ∧
      (Arith.eqBits (natToBits i variants.tagSize) (bs.take variants.tagSize) && m2) = m := by
  cases ty <;> dsimp only [patG] at h <;> try contradiction
  split at h <;> try contradiction
  split at h <;> try contradiction
  cases h
  exact ⟨_, _, _, _, _, _, rfl, ‹_›, ‹_›, rfl⟩

theorem patsG_nil {ts : TyList} (h : patsG .nil ts bs = some (m, bb)) : ts = .nil ∧ true = m ∧ [] = bb := by
  cases ts <;> dsimp only [patsG] at h <;> try contradiction
  cases h
  exact ⟨rfl, rfl, rfl⟩

theorem patsG_cons {pat : Pat} {ps : PatList} {ts : TyList} (h : patsG (.cons pat ps) ts bs = some (m, bb)) :
    ∃ t ts' m1 b1 m2 b2, ts = .cons t ts' ∧ patG pat t (bs.take t.size) = some (m1, b1) ∧
      patsG ps ts' (bs.drop t.size) = some (m2, b2) ∧ (m1 && m2) = m ∧ b2 ++ b1 = bb := by
  cases ts <;> dsimp only [patsG] at h <;> try contradiction
  split at h <;> try contradiction
  cases h
  exact ⟨_, _, _, _, _, _, rfl, ‹_›, ‹_›, rfl, rfl⟩

theorem fieldsG_cons {n : String} {pat : Pat} {r : FieldPats} {fs : Fields} (h : fieldsG (.cons n pat r) fs bs = some (m, bb)) :
    ∃ off ti m1 b1 m2 b2, Fields.nth? fs n = some (off, ti) ∧ patG pat ti ((bs.drop off).take ti.size) = some (m1, b1) ∧
      fieldsG r fs bs = some (m2, b2) ∧ (m1 && m2) = m ∧ b2 ++ b1 = bb := by
  dsimp only [fieldsG] at h
  split at h <;> try contradiction
  split at h <;> try contradiction
  cases h
  exact ⟨_, _, _, _, _, _, ‹_›, ‹_›, ‹_›, rfl, rfl⟩

end patterns

theorem bitExpr_int {n : Int} {k : IntTy} (h : bitExpr call benv (.int n k) = some (t, bs, p, benv')) :
    k.inRange n = true ∧ .s (.int k) = t ∧ intToBits n k.bits = bs ∧ none = p ∧ benv = benv' := by
  dsimp only [bitExpr] at h
  obtain ⟨_, h⟩ := Option.ite_none_right_eq_some.mp h
  cases h
  exact ⟨‹_›, rfl, rfl, rfl, rfl⟩

theorem bitExpr_var {x : String} (h : bitExpr call benv (.var x) = some (t, bs, p, benv')) :
    benv.get? x = some (t, bs) ∧ none = p ∧ benv = benv' := by
  dsimp only [bitExpr] at h
  split at h <;> try contradiction
  cases h
  exact ⟨‹_›, rfl, rfl⟩

/-- `!` on a Boolean, `!` on an integer, `-` on a signed integer -/
theorem bitExpr_un {op : Src.UnOp} {ty : Ty} {a : Expr} (h : bitExpr call benv (.un op ty a) = some (t, bs, p, benv')) :
    (∃ b, op = .not ∧ ty = .bool ∧ bitExpr call benv a = some (.s .bool, [b], p, benv') ∧ .s .bool = t ∧ [!b] = bs) ∨
    (∃ k x, op = .not ∧ ty = .int k ∧ bitExpr call benv a = some (t, x, p, benv') ∧ .s (.int k) = t ∧ x.map (!·) = bs) ∨
    (∃ k x p1, op = .neg ∧ ty = .int k ∧ k.signed = true ∧ bitExpr call benv a = some (t, x, p1, benv') ∧ .s (.int k) = t ∧
      (Arith.negChecked x).1 = bs ∧ seqP p1 (if (Arith.negChecked x).2 then some .overflow else none) = p) := by
  cases op <;> cases ty <;> dsimp only [bitExpr] at h <;> try contradiction
  · split at h <;> try contradiction
    cases h
    exact .inl ⟨_, rfl, rfl, ‹_›, rfl, rfl⟩
  · split at h <;> try contradiction
    split at h <;> try contradiction
    subst_vars
    cases h
    exact .inr (.inl ⟨_, _, rfl, rfl, ‹_›, rfl, rfl⟩)
  · split at h <;> try contradiction
    split at h <;> try contradiction
    split at h <;> try contradiction
    subst_vars
    cases h
    exact .inr (.inr ⟨_, _, _, rfl, rfl, ‹_›, ‹_›, rfl, rfl, rfl⟩)

theorem bitExpr_land {ty : Ty} {a b : Expr} (h : bitExpr call benv (.bin .land ty a b) = some (t, bs, p, benv')) :
    ∃ x p1 env1 y p2 env2, bitExpr call benv a = some (.s .bool, [x], p1, env1) ∧
      bitExpr call env1 b = some (.s .bool, [y], p2, env2) ∧
      .s .bool = t ∧ [x && y] = bs ∧ seqP p1 (if x then p2 else none) = p ∧ muxEnv x env2 env1 = benv' := by
  dsimp only [bitExpr] at h
  split at h <;> try contradiction
  split at h <;> try contradiction
  cases h
  exact ⟨_, _, _, _, _, _, ‹_›, ‹_›, rfl, rfl, rfl, rfl⟩

theorem bitExpr_lor {ty : Ty} {a b : Expr} (h : bitExpr call benv (.bin .lor ty a b) = some (t, bs, p, benv')) :
    ∃ x p1 env1 y p2 env2, bitExpr call benv a = some (.s .bool, [x], p1, env1) ∧
      bitExpr call env1 b = some (.s .bool, [y], p2, env2) ∧
      .s .bool = t ∧ [x || y] = bs ∧ seqP p1 (if x then none else p2) = p ∧ muxEnv x env1 env2 = benv' := by
  dsimp only [bitExpr] at h
  split at h <;> try contradiction
  split at h <;> try contradiction
  cases h
  exact ⟨_, _, _, _, _, _, ‹_›, ‹_›, rfl, rfl, rfl, rfl⟩

/-- `<<` and `>>`: an integer by a `u8` -/
theorem bitExpr_shift {op : Src.BinOp} {ty : Ty} {a b : Expr} (hop : op = .shl ∨ op = .shr)
    (h : bitExpr call benv (.bin op ty a b) = some (t, bs, p, benv')) :
    ∃ k x p1 env1 y p2, STy.ofTy ty = some (.int k) ∧ bitExpr call benv a = some (t, x, p1, env1) ∧
      bitExpr call env1 b = some (.s (.int .u8), y, p2, benv') ∧ .s (.int k) = t ∧
      (Arith.binop (if op = .shl then .shl else .shr) k.signed false k.signed x y).1 = bs ∧
      seqP p1 (seqP p2 (firstOf (Arith.binop (if op = .shl then .shl else .shr) k.signed false k.signed x y).2)) = p := by
  rcases hop with rfl | rfl
  all_goals
    dsimp only [bitExpr] at h
    split at h <;> try contradiction
    split at h <;> try contradiction
    split at h <;> try contradiction
    split at h <;> try contradiction
    subst_vars
    -- not `cases h`: it would normalise the shifter circuit `Arith.binop .shl …`; the equation is taken apart componentwise
    simp only [Option.some.injEq, Prod.mk.injEq] at h
    obtain ⟨rfl, rfl, rfl, rfl⟩ := h
    exact ⟨_, _, _, _, _, _, ‹_›, ‹_›, ‹_›, rfl, rfl, rfl⟩

theorem litFactor_some {e : Expr} {neg : Bool} {n : Nat} {k : IntTy} (h : litFactor e = some (neg, n, k)) :
    ∃ n0 : Int, e = .int n0 k ∧ n0 ≠ 0 ∧ n0.natAbs < k.bits ∧ n = n0.natAbs ∧ neg = decide (n0 < 0) := by
  cases e <;> dsimp only [litFactor] at h <;> try contradiction
  split at h <;> try contradiction
  cases h
  exact ⟨_, rfl, ‹_ ∧ _›.1, ‹_ ∧ _›.2, rfl, rfl⟩

theorem litMul_some {neg : Bool} {n : Nat} {k : IntTy} {ty : Ty} {other : Option (VTy × List Bool × P × BEnv)}
    (h : litMul neg n k ty other = some (t, bs, p, benv')) :
    neg = false ∧ STy.ofTy ty = some (.int k) ∧ ∃ y p2, other = some (t, y, p2, benv') ∧ .s (.int k) = t ∧
      (Arith.constMul y k.signed n false).1 = bs ∧
      seqP p2 (if (Arith.constMul y k.signed n false).2 then some .overflow else none) = p := by
  unfold litMul at h
  split at h <;> try contradiction
  split at h <;> try contradiction
  split at h <;> try contradiction
  cases h
  obtain ⟨rfl, hty⟩ := ‹_ ∧ _›
  exact ⟨(Bool.not_eq_true _).mp ‹_›, hty, _, _, rfl, rfl, rfl, rfl⟩

theorem aggEq_some {op : Src.BinOp} {ty : Ty} {ra : Option (VTy × List Bool × P × BEnv)}
    {rb : BEnv → Option (VTy × List Bool × P × BEnv)} (h : aggEq op ty ra rb = some (t, bs, p, benv')) :
    (op = .eq ∨ op = .ne) ∧ ∃ x p1 env1 y p2, ra = some (.agg ty, x, p1, env1) ∧ rb env1 = some (.agg ty, y, p2, benv') ∧
      .s .bool = t ∧ [if op = .eq then Arith.eqBits x y else !Arith.eqBits x y] = bs ∧ seqP p1 p2 = p := by
  unfold aggEq at h
  obtain ⟨_, h⟩ := Option.ite_none_right_eq_some.mp h
  split at h <;> try contradiction
  split at h <;> try contradiction
  obtain ⟨_, h⟩ := Option.ite_none_right_eq_some.mp h
  cases h
  obtain ⟨rfl, rfl⟩ := ‹_ ∧ _›
  exact ⟨‹_›, _, _, _, _, _, rfl, ‹_›, rfl, rfl, rfl⟩

/-- the successful runs of a binary operator other than `&&`, `||`, `<<`, `>>` -/
inductive StrictSome (call : Ctx) (benv : BEnv) (op : Src.BinOp) (ty : Ty) (a b : Expr) :
    VTy → List Bool → P → BEnv → Prop
  /-- `n * b` for a small positive literal `n` -/
  | litL {n0 : Int} {k : IntTy} {y : List Bool} {p2 : P} {env2 : BEnv} : op = .mul → a = .int n0 k → 0 < n0 →
      n0.natAbs < k.bits → STy.ofTy ty = some (.int k) → bitExpr call benv b = some (.s (.int k), y, p2, env2) →
      StrictSome call benv op ty a b (.s (.int k)) (Arith.constMul y k.signed n0.natAbs false).1
        (seqP p2 (if (Arith.constMul y k.signed n0.natAbs false).2 then some .overflow else none)) env2
  | litR {n0 : Int} {k : IntTy} {y : List Bool} {p2 : P} {env2 : BEnv} : op = .mul → litFactor a = none → b = .int n0 k →
      0 < n0 → n0.natAbs < k.bits → STy.ofTy ty = some (.int k) → bitExpr call benv a = some (.s (.int k), y, p2, env2) →
      StrictSome call benv op ty a b (.s (.int k)) (Arith.constMul y k.signed n0.natAbs false).1
        (seqP p2 (if (Arith.constMul y k.signed n0.natAbs false).2 then some .overflow else none)) env2
  /-- `==` / `!=` on aggregates -/
  | agg {x y : List Bool} {p1 p2 : P} {env1 env2 : BEnv} : (op = .eq ∨ op = .ne) → STy.ofTy ty = none →
      bitExpr call benv a = some (.agg ty, x, p1, env1) → bitExpr call env1 b = some (.agg ty, y, p2, env2) →
      StrictSome call benv op ty a b (.s .bool) [if op = .eq then Arith.eqBits x y else !Arith.eqBits x y] (seqP p1 p2) env2
  /-- an operator on scalars (no operand of a `*` is a literal factor, `litFactor`) -/
  | scalar {t tr : STy} {x y bits : List Bool} {p1 p2 : P} {env1 env2 : BEnv} {panics : List (Bool × Arith.PanicKind)} :
      (op = .mul → litFactor a = none ∧ litFactor b = none) → STy.ofTy ty = some t → bitExpr call benv a = some (.s t, x, p1, env1) → bitExpr call env1 b = some (.s t, y, p2, env2) →
      binBits op t x y = some (tr, bits, panics) →
      StrictSome call benv op ty a b (.s tr) bits (seqP p1 (seqP p2 (firstOf panics))) env2

theorem bitExpr_strict {op : Src.BinOp} {ty : Ty} {a b : Expr} (h1 : op ≠ .land) (h2 : op ≠ .lor)
    (h3 : op ≠ .shl) (h4 : op ≠ .shr) (h : bitExpr call benv (.bin op ty a b) = some (t, bs, p, benv')) :
    StrictSome call benv op ty a b t bs p benv' := by
  -- the rule from `match STy.ofTy ty` on: both `*` without a literal factor and every other operator arrive here
  have tail : (match STy.ofTy ty with
      | none => aggEq op ty (bitExpr call benv a) (fun env1 => bitExpr call env1 b)
      | some t =>
        match bitExpr call benv a with
        | some (.s ta, x, p1, env1) =>
          match bitExpr call env1 b with
          | some (.s tb, y, p2, env2) =>
            if ta = t ∧ tb = t then
              match binBits op t x y with
              | some (tr, r, panics) => some (.s tr, r, seqP p1 (seqP p2 (firstOf panics)), env2)
              | none => none
            else none
          | _ => none
        | _ => none) = some (t, bs, p, benv') → (op = .mul → litFactor a = none ∧ litFactor b = none) →
      StrictSome call benv op ty a b t bs p benv' := by
    intro h hlit
    split at h
    · obtain ⟨hop, _, _, _, _, _, ha, hb, rfl, rfl, rfl⟩ := aggEq_some h
      exact .agg hop ‹_› ha hb
    · split at h <;> try contradiction
      split at h <;> try contradiction
      split at h <;> try contradiction
      split at h <;> try contradiction
      cases h
      obtain ⟨rfl, rfl⟩ := ‹_ ∧ _›
      exact .scalar hlit ‹_› ‹_› ‹_› ‹_›
  have pos : ∀ {n0 : Int}, n0 ≠ 0 → false = decide (n0 < 0) → 0 < n0 := by
    intro n0 h0 hd
    have : ¬ n0 < 0 := by simpa using hd.symm
    omega
  -- the last `.bin` clause, `.bin op ty a b`, of `bitExpr`: its equation has the side goals `op = .land → False` …
  -- `op = .shr → False`, which are `h1` … `h4`
  rw [bitExpr] at h <;> try assumption
  by_cases hop : op = .mul
  · subst hop
    rw [if_pos rfl, if_pos rfl] at h
    split at h
    · obtain ⟨rfl, hty, _, _, hb, rfl, rfl, rfl⟩ := litMul_some h
      obtain ⟨_, rfl, h0, hlt, rfl, hd⟩ := litFactor_some ‹_›
      exact .litL rfl rfl (pos h0 hd) hlt hty hb
    · obtain ⟨rfl, hty, _, _, ha, rfl, rfl, rfl⟩ := litMul_some h
      obtain ⟨_, rfl, h0, hlt, rfl, hd⟩ := litFactor_some ‹litFactor b = _›
      exact .litR rfl ‹_› rfl (pos h0 hd) hlt hty ha
    · exact tail h fun _ => ⟨‹_›, ‹_›⟩
  · rw [if_neg hop, if_neg hop] at h
    exact tail h (absurd · hop)

theorem bitExpr_cast {src dst : Ty} {a : Expr} (h : bitExpr call benv (.cast src dst a) = some (t, bs, p, benv')) :
    ∃ ts td x, STy.ofTy src = some ts ∧ STy.ofTy dst = some td ∧ bitExpr call benv a = some (.s ts, x, p, benv') ∧
      .s td = t ∧ Arith.cast x ts.signed td.bits = bs := by
  dsimp only [bitExpr] at h
  split at h <;> try contradiction
  split at h <;> try contradiction
  obtain ⟨_, h⟩ := Option.ite_none_right_eq_some.mp h
  subst_vars
  cases h
  exact ⟨_, _, _, ‹_›, ‹_›, ‹_›, rfl, rfl⟩

theorem bitExpr_ite {c e1 e2 : Expr} (h : bitExpr call benv (.ite c e1 e2) = some (t, bs, p, benv')) :
    ∃ cb pc env1 tb pt envT fb pf envF, bitExpr call benv c = some (.s .bool, [cb], pc, env1) ∧
      bitExpr call env1 e1 = some (t, tb, pt, envT) ∧ bitExpr call env1 e2 = some (t, fb, pf, envF) ∧
      (if cb then tb else fb) = bs ∧ seqP pc (if cb then pt else pf) = p ∧ muxEnv cb envT envF = benv' := by
  dsimp only [bitExpr] at h
  split at h <;> try contradiction
  split at h <;> try contradiction
  obtain ⟨_, h⟩ := Option.ite_none_right_eq_some.mp h
  subst_vars
  cases h
  exact ⟨_, _, _, _, _, _, _, _, _, ‹_›, ‹_›, ‹_›, rfl, rfl, rfl⟩

theorem bitExpr_block {ss : StmtList} (h : bitExpr call benv (.block ss) = some (t, bs, p, benv')) :
    ∃ env1, bitStmts call benv ss = some (t, bs, p, env1) ∧ restoreB benv env1 = benv' := by
  dsimp only [bitExpr] at h
  split at h <;> try contradiction
  cases h
  exact ⟨_, ‹_›, rfl⟩

theorem bitExpr_tuple {e : Expr} {es : ExprList} (h : bitExpr call benv (.tuple (.cons e es)) = some (t, bs, p, benv')) :
    ∃ vs, bitList call benv (.cons e es) = some (vs, p, benv') ∧
      .agg (.tuple (TyList.ofList (vs.map (·.1.toTy)))) = t ∧ vs.flatMap (·.2) = bs := by
  dsimp only [bitExpr] at h
  split at h <;> try contradiction
  cases h
  exact ⟨_, ‹_›, rfl, rfl⟩

theorem bitExpr_tupleGet {a : Expr} {i : Nat} (h : bitExpr call benv (.tupleGet a i) = some (t, bs, p, benv')) :
    ∃ ts x off ti, bitExpr call benv a = some (.agg (.tuple ts), x, p, benv') ∧ TyList.nth? ts i = some (off, ti) ∧
      VTy.ofTy ti = t ∧ (x.drop off).take ti.size = bs := by
  dsimp only [bitExpr] at h
  split at h <;> try contradiction
  split at h <;> try contradiction
  cases h
  exact ⟨_, _, _, _, ‹_›, ‹_›, rfl, rfl⟩

theorem bitExpr_struct {name : String} {fs : FieldExprs} (h : bitExpr call benv (.struct name fs) = some (t, bs, p, benv')) :
    ∃ vs, bitFields call benv fs = some (vs, p, benv') ∧
      .agg (.struct name (Fields.ofList (vs.map fun x => (x.1, x.2.1.toTy)))) = t ∧ vs.flatMap (·.2.2) = bs := by
  dsimp only [bitExpr] at h
  split at h <;> try contradiction
  cases h
  exact ⟨_, ‹_›, rfl, rfl⟩

theorem bitExpr_enumLit {ename variant : String} {isUnit : Bool} {es : ExprList}
    (h : bitExpr call benv (.enumLit ename variant isUnit es) = some (t, bs, p, benv')) :
    ∃ variants i fts vs, call.enums ename = some variants ∧ variants.find? variant = some (i, isUnit, fts) ∧
      bitList call benv es = some (vs, p, benv') ∧ vs.map (·.1) = fts.toList.map VTy.ofTy ∧
      .agg (.enum ename variants) = t ∧
      natToBits i variants.tagSize ++ vs.flatMap (·.2) ++
        List.replicate (variants.maxPayload - (vs.flatMap (·.2)).length) false = bs := by
  dsimp only [bitExpr] at h
  split at h <;> try contradiction
  split at h <;> try contradiction
  split at h <;> try contradiction
  obtain ⟨_, h⟩ := Option.ite_none_right_eq_some.mp h
  cases h
  obtain ⟨rfl, hv⟩ := ‹_ ∧ _›
  exact ⟨_, _, _, _, ‹_›, ‹_›, ‹_›, hv, rfl, rfl⟩

theorem bitExpr_field {a : Expr} {fname : String} (h : bitExpr call benv (.field a fname) = some (t, bs, p, benv')) :
    ∃ sn fs x off ti, bitExpr call benv a = some (.agg (.struct sn fs), x, p, benv') ∧
      Fields.nth? fs fname = some (off, ti) ∧ VTy.ofTy ti = t ∧ (x.drop off).take ti.size = bs := by
  dsimp only [bitExpr] at h
  split at h <;> try contradiction
  split at h <;> try contradiction
  cases h
  exact ⟨_, _, _, _, _, ‹_›, ‹_›, rfl, rfl⟩

theorem bitExpr_array {es : ExprList} (h : bitExpr call benv (.array es) = some (t, bs, p, benv')) :
    ∃ te b vs, es ≠ .nil ∧ bitList call benv es = some ((te, b) :: vs, p, benv') ∧ (∀ x ∈ vs, x.1 = te) ∧
      .agg (.array te.toTy (vs.length + 1)) = t ∧ b ++ vs.flatMap (·.2) = bs := by
  cases es <;> dsimp only [bitExpr] at h <;> try contradiction
  split at h <;> try contradiction
  obtain ⟨_, h⟩ := Option.ite_none_right_eq_some.mp h
  cases h
  exact ⟨_, _, _, ExprList.noConfusion, ‹_›, fun x hx => of_decide_eq_true (List.all_eq_true.mp ‹_› x hx), rfl, rfl⟩

theorem bitExpr_repeat {a : Expr} {n : Nat} (h : bitExpr call benv (.repeat_ a n) = some (t, bs, p, benv')) :
    ∃ te x, bitExpr call benv a = some (te, x, p, benv') ∧ .agg (.array te.toTy n) = t ∧
      (List.replicate n x).flatten = bs := by
  dsimp only [bitExpr] at h
  split at h <;> try contradiction
  cases h
  exact ⟨_, _, ‹_›, rfl, rfl⟩

theorem bitExpr_range {lo hi : Nat} {k : IntTy} (h : bitExpr call benv (.range lo hi k) = some (t, bs, p, benv')) :
    (hi ≤ lo ∨ (k.inRange (lo : Int) ∧ k.inRange ((hi : Int) - 1))) ∧ .agg (.array (.int k) (hi - lo)) = t ∧
      ((List.range (hi - lo)).map fun j => intToBits ((lo + j : Nat) : Int) k.bits).flatten = bs ∧ none = p ∧
      benv = benv' := by
  dsimp only [bitExpr] at h
  obtain ⟨_, h⟩ := Option.ite_none_right_eq_some.mp h
  cases h
  exact ⟨‹_›, rfl, rfl, rfl, rfl⟩

theorem bitExpr_index {a i : Expr} (h : bitExpr call benv (.index a i) = some (t, bs, p, benv')) :
    ∃ te n abits pa env1 ibits pi, bitExpr call benv a = some (.agg (.array te n), abits, pa, env1) ∧
      bitExpr call env1 i = some (.s (.int .usize), ibits, pi, benv') ∧ n < 2 ^ ibits.length ∧ VTy.ofTy te = t ∧
      Arith.selected te.size (Arith.indexMux ibits (chunks te.size n abits)) = bs ∧
      seqP pa (seqP pi (if (Arith.comparator ibits false (natToBits n ibits.length) false).1 then none
        else some .outOfBounds)) = p := by
  dsimp only [bitExpr] at h
  split at h <;> try contradiction
  split at h <;> try contradiction
  obtain ⟨_, h⟩ := Option.ite_none_right_eq_some.mp h
  cases h
  exact ⟨_, _, _, _, _, _, _, ‹_›, ‹_›, ‹_›, rfl, rfl, rfl⟩

theorem bitExpr_match {scrut : Expr} {arms : Arms} (h : bitExpr call benv (.match_ scrut arms) = some (t, bs, p, benv')) :
    ∃ ts sb ps env1 hp pa, bitExpr call benv scrut = some (ts, sb, ps, env1) ∧ matchCovers ts.toTy arms = true ∧
      bitArms call env1 ts.toTy sb arms (false, none, none, env1) = some (hp, some (t, bs), pa, benv') ∧ seqP ps pa = p := by
  dsimp only [bitExpr] at h
  split at h <;> try contradiction
  obtain ⟨_, h⟩ := Option.ite_none_right_eq_some.mp h
  split at h <;> try contradiction
  cases h
  exact ⟨_, _, _, _, _, _, ‹_›, ‹_›, ‹_›, rfl⟩

theorem bitExpr_call {fn : String} {args : ExprList} (h : bitExpr call benv (.call fn args) = some (t, bs, p, benv')) :
    ∃ vs pargs pb, bitList call benv args = some (vs, pargs, benv') ∧ call.fn fn vs = some (t, bs, pb) ∧
      seqP pargs pb = p := by
  dsimp only [bitExpr] at h
  split at h <;> try contradiction
  split at h <;> try contradiction
  cases h
  exact ⟨_, _, _, ‹_›, ‹_›, rfl⟩

theorem bitList_cons {e : Expr} {rest : ExprList} {vs : List (VTy × List Bool)}
    (h : bitList call benv (.cons e rest) = some (vs, p, benv')) :
    ∃ te x p1 env1 vs' p2, bitExpr call benv e = some (te, x, p1, env1) ∧ bitList call env1 rest = some (vs', p2, benv') ∧
      (te, x) :: vs' = vs ∧ seqP p1 p2 = p := by
  dsimp only [bitList] at h
  split at h <;> try contradiction
  split at h <;> try contradiction
  cases h
  exact ⟨_, _, _, _, _, _, ‹_›, ‹_›, rfl, rfl⟩

theorem bitFields_cons {n : String} {e : Expr} {rest : FieldExprs} {vs : List (String × VTy × List Bool)}
    (h : bitFields call benv (.cons n e rest) = some (vs, p, benv')) :
    ∃ te x p1 env1 vs' p2, bitExpr call benv e = some (te, x, p1, env1) ∧ bitFields call env1 rest = some (vs', p2, benv') ∧
      (n, te, x) :: vs' = vs ∧ seqP p1 p2 = p := by
  dsimp only [bitFields] at h
  split at h <;> try contradiction
  split at h <;> try contradiction
  cases h
  exact ⟨_, _, _, _, _, _, ‹_›, ‹_›, rfl, rfl⟩

/-- one turn of the arm loop: the arm is compiled, and the loop goes on with value, panic and variables selected by
`!hasPrev && m` -/
theorem bitArms_cons {benv1 : BEnv} {ts : Ty} {scrut : List Bool} {pat : Pat} {e : Expr} {rest : Arms} {hasPrev : Bool}
    {ret : Option (VTy × List Bool)} {pacc : P} {envAcc : BEnv} {st' : ArmSt}
    (h : bitArms call benv1 ts scrut (.cons pat e rest) (hasPrev, ret, pacc, envAcc) = some st') :
    ∃ m bb te be pe enve, patG pat ts scrut = some (m, bb) ∧ bitExpr call (armEnv bb benv1) e = some (te, be, pe, enve) ∧
      (∀ tr rbits, ret = some (tr, rbits) → tr = te) ∧
      bitArms call benv1 ts scrut rest (hasPrev || m,
        some (te, if !hasPrev && m then be else (ret.map (·.2)).getD (List.replicate be.length false)),
        if !hasPrev && m then pe else pacc, muxEnv (!hasPrev && m) (armOut bb enve) envAcc) = some st' := by
  dsimp only [bitArms] at h
  split at h <;> try contradiction
  split at h <;> try contradiction
  split at h
  · split at h <;> try contradiction
    subst_vars
    exact ⟨_, _, _, _, _, _, ‹_›, ‹_›, fun _ _ e => (by cases e; rfl), h⟩
  · exact ⟨_, _, _, _, _, _, ‹_›, ‹_›, fun _ _ e => (by cases e), h⟩

theorem bitStmts_cons {s s2 : Stmt} {rest : StmtList} (h : bitStmts call benv (.cons s (.cons s2 rest)) = some (t, bs, p, benv')) :
    ∃ t1 bs1 p1 env1 p2, bitStmt call benv s = some (t1, bs1, p1, env1) ∧
      bitStmts call env1 (.cons s2 rest) = some (t, bs, p2, benv') ∧ seqP p1 p2 = p := by
  dsimp only [bitStmts] at h
  split at h <;> try contradiction
  split at h <;> try contradiction
  cases h
  exact ⟨_, _, _, _, _, ‹_›, ‹_›, rfl⟩

/-- `let pat = e`: the bindings `bb` of the pattern go in front — the variable itself, or what an irrefutable tuple,
struct or enum pattern binds on the wires of the value -/
theorem bitStmt_let {pat : Pat} {e : Expr} (h : bitStmt call benv (.let_ pat e) = some (t, bs, p, benv')) :
    ∃ te x env1 bb, bitExpr call benv e = some (te, x, p, env1) ∧ .unit = t ∧ [] = bs ∧ bb ++ env1 = benv' ∧
      ((∃ v, pat = .ident v ∧ bb = [(v, te, x)]) ∨
        (((∃ ps, pat = .tuple ps) ∨ (∃ sn fps, pat = .struct sn fps) ∨ (∃ en vn ps, pat = .enumTuple en vn ps)) ∧
          irrefutable te.toTy pat = true ∧ ∃ m, patG pat te.toTy x = some (m, bb))) := by
  cases pat <;> dsimp only [bitStmt] at h <;> try contradiction
  case ident v =>
    split at h <;> try contradiction
    cases h
    exact ⟨_, _, _, _, ‹_›, rfl, rfl, rfl, .inl ⟨_, rfl, rfl⟩⟩
  all_goals
    split at h <;> try contradiction
    obtain ⟨_, h⟩ := Option.ite_none_right_eq_some.mp h
    split at h <;> try contradiction
    cases h
    refine ⟨_, _, _, _, ‹_›, rfl, rfl, rfl, .inr ⟨?_, ‹_›, _, ‹_›⟩⟩
  · exact .inl ⟨_, rfl⟩
  · exact .inr (.inl ⟨_, _, rfl⟩)
  · exact .inr (.inr ⟨_, _, _, rfl⟩)

theorem bitStmt_letMut {v : String} {e : Expr} (h : bitStmt call benv (.letMut v e) = some (t, bs, p, benv')) :
    ∃ te x env1, bitExpr call benv e = some (te, x, p, env1) ∧ .unit = t ∧ [] = bs ∧ (v, te, x) :: env1 = benv' := by
  dsimp only [bitStmt] at h
  split at h <;> try contradiction
  cases h
  exact ⟨_, _, _, ‹_›, rfl, rfl, rfl⟩

/-- `v = e` replaces the wires of `v`; `v.path = e` replaces the component `bitUpd` finds at the end of the path -/
theorem bitStmt_assign {v : String} {path : Path} {e : Expr} (h : bitStmt call benv (.assign v path e) = some (t, bs, p, benv')) :
    ∃ te x p1 env1 tv vbits, bitExpr call benv e = some (te, x, p1, env1) ∧ env1.get? v = some (tv, vbits) ∧
      .unit = t ∧ [] = bs ∧
      ((path = .nil ∧ tv = te ∧ p1 = p ∧ env1.set v x = benv') ∨
        (path ≠ .nil ∧ ∃ vbits' p2 env2, bitUpd call env1 tv.toTy vbits te x path = some (vbits', p2, env2) ∧
          seqP p1 p2 = p ∧ env2.set v vbits' = benv')) := by
  cases path <;> dsimp only [bitStmt] at h
  case nil =>
    split at h <;> try contradiction
    split at h <;> try contradiction
    split at h <;> try contradiction
    cases h
    exact ⟨_, _, _, _, _, _, ‹_›, ‹_›, rfl, rfl, .inl ⟨rfl, ‹_›, rfl, rfl⟩⟩
  all_goals
    split at h <;> try contradiction
    split at h <;> try contradiction
    split at h <;> try contradiction
    cases h
    exact ⟨_, _, _, _, _, _, ‹_›, ‹_›, rfl, rfl, .inr ⟨Path.noConfusion, _, _, _, ‹_›, rfl, rfl⟩⟩

/-- the step of an unrolled `for pat in arr { body }`: the pattern is bound on the wires of the element and the body
compiled from there -/
def loopStep (call : Ctx) (pat : Pat) (te : Ty) (body : StmtList) (el : List Bool) (env : BEnv) : Option (P × BEnv) :=
  match patG pat te el with
  | some (_, bb) =>
    match bitStmts call (bb ++ env) body with
    | some (_, _, pb, envb) => some (pb, envb)
    | none => none
  | none => none

theorem loopStep_some {pat : Pat} {te : Ty} {body : StmtList} {el : List Bool} {env envb : BEnv} {pb : P} :
    loopStep call pat te body el env = some (pb, envb) ↔
      ∃ m bb tb bb', patG pat te el = some (m, bb) ∧ bitStmts call (bb ++ env) body = some (tb, bb', pb, envb) := by
  unfold loopStep
  constructor
  · intro h
    split at h <;> try contradiction
    split at h <;> try contradiction
    cases h
    exact ⟨_, _, _, _, ‹_›, ‹_›⟩
  · rintro ⟨_, _, _, _, h1, h2⟩
    simp only [h1, h2]

theorem bitStmt_for {pat : Pat} {arr : Expr} {body : StmtList} (h : bitStmt call benv (.for_ pat arr body) = some (t, bs, p, benv')) :
    ∃ te n abits pa env1, bitExpr call benv arr = some (.agg (.array te n), abits, pa, env1) ∧ irrefutable te pat = true ∧
      foldLoop (loopStep call pat te body) (chunks te.size n abits) (pa, env1) = some (p, benv') ∧ .unit = t ∧ [] = bs := by
  dsimp only [bitStmt] at h
  split at h <;> try contradiction
  obtain ⟨_, h⟩ := Option.ite_none_right_eq_some.mp h
  split at h <;> try contradiction
  cases h
  exact ⟨_, _, _, _, _, ‹_›, ‹_›, ‹_›, rfl, rfl⟩

theorem foldLoop_cons {f : List Bool → BEnv → Option (P × BEnv)} {el : List Bool} {rest : List (List Bool)} {p0 : P}
    {env : BEnv} {r : P × BEnv} (h : foldLoop f (el :: rest) (p0, env) = some r) :
    ∃ pb envb, f el env = some (pb, envb) ∧ foldLoop f rest (seqP p0 pb, restoreB env envb) = some r := by
  dsimp only [foldLoop] at h
  split at h <;> try contradiction
  exact ⟨_, _, ‹_›, h⟩

variable {ty : Ty} {cur vb out : List Bool} {vt : VTy}

theorem bitUpd_nil (h : bitUpd call benv ty cur vt vb .nil = some (out, p, benv')) :
    VTy.ofTy ty = vt ∧ vb = out ∧ none = p ∧ benv = benv' := by
  dsimp only [bitUpd] at h
  obtain ⟨_, h⟩ := Option.ite_none_right_eq_some.mp h
  cases h
  exact ⟨‹_›, rfl, rfl, rfl⟩

/-- `.i` of a tuple: the component, with `off` wires in front of it, is cut out, updated along the rest of the path and
put back -/
theorem bitUpd_tup {i : Nat} {rest : Path} (h : bitUpd call benv ty cur vt vb (.tup i rest) = some (out, p, benv')) :
    ∃ ts off ti sub, ty = .tuple ts ∧ TyList.nth? ts i = some (off, ti) ∧
      bitUpd call benv ti ((cur.drop off).take ti.size) vt vb rest = some (sub, p, benv') ∧
      cur.take off ++ sub ++ cur.drop (off + ti.size) = out := by
  dsimp only [bitUpd] at h
  split at h <;> try contradiction
  split at h <;> try contradiction
  split at h <;> try contradiction
  cases h
  exact ⟨_, _, _, _, rfl, ‹_›, ‹_›, rfl⟩

theorem bitUpd_fld {f : String} {rest : Path} (h : bitUpd call benv ty cur vt vb (.fld f rest) = some (out, p, benv')) :
    ∃ sn fs off ti sub, ty = .struct sn fs ∧ Fields.nth? fs f = some (off, ti) ∧
      bitUpd call benv ti ((cur.drop off).take ti.size) vt vb rest = some (sub, p, benv') ∧
      cur.take off ++ sub ++ cur.drop (off + ti.size) = out := by
  dsimp only [bitUpd] at h
  split at h <;> try contradiction
  split at h <;> try contradiction
  split at h <;> try contradiction
  cases h
  exact ⟨_, _, _, _, _, rfl, ‹_›, ‹_›, rfl⟩

/-- `[i]`: the element is read through the mux tree, updated along the rest of the path, and every element is rewritten
through its mux chain -/
theorem bitUpd_index {ie : Expr} {rest : Path} (h : bitUpd call benv ty cur vt vb (.index ie rest) = some (out, p, benv')) :
    ∃ te n ibits pi env1 sub p2, ty = .array te n ∧ bitExpr call benv ie = some (.s (.int .usize), ibits, pi, env1) ∧
      n < 2 ^ ibits.length ∧
      bitUpd call env1 te (Arith.selected te.size (Arith.indexMux ibits (chunks te.size n cur))) vt vb rest =
        some (sub, p2, benv') ∧
      (Arith.writeAll ibits sub 0 (chunks te.size n cur)).flatten = out ∧
      seqP pi (seqP (if (Arith.comparator ibits false (natToBits n ibits.length) false).1 then none
        else some .outOfBounds) p2) = p := by
  dsimp only [bitUpd] at h
  split at h <;> try contradiction
  split at h <;> try contradiction
  obtain ⟨_, h⟩ := Option.ite_none_right_eq_some.mp h
  split at h <;> try contradiction
  cases h
  exact ⟨_, _, _, _, _, _, _, rfl, ‹_›, ‹_›, ‹_›, rfl, rfl⟩

theorem litFactor_pos {n : Int} {k : IntTy} (h0 : 0 < n) (hlt : n.natAbs < k.bits) :
    litFactor (.int n k) = some (false, n.natAbs, k) := by
  simp only [litFactor, if_pos (⟨by omega, hlt⟩ : n ≠ 0 ∧ n.natAbs < k.bits), decide_eq_false (by omega : ¬ n < 0)]

/-- a `StrictSome` gives the run: the converse of `bitExpr_strict` -/
theorem StrictSome.run {call : Ctx} {benv benv' : BEnv} {op : Src.BinOp} {ty : Ty} {a b : Expr} {t : VTy} {bs : List Bool} {p : P}
    (h1 : op ≠ .land) (h2 : op ≠ .lor) (h3 : op ≠ .shl) (h4 : op ≠ .shr) (h : StrictSome call benv op ty a b t bs p benv') :
    bitExpr call benv (.bin op ty a b) = some (t, bs, p, benv') := by
  simp only [bitExpr]
  cases h with
  | litL hop ha hpos hlt hty hb =>
    subst hop ha
    simp only [if_true, litFactor_pos hpos hlt, litMul, hb, hty, and_self, Bool.false_eq_true, if_false]
  | litR hop hfa hb0 hpos hlt hty ha =>
    subst hop hb0
    simp only [if_true, hfa, litFactor_pos hpos hlt, litMul, ha, hty, and_self, Bool.false_eq_true, if_false]
  | agg hop hty ha hb =>
    have hm : op ≠ .mul := by rcases hop with rfl | rfl <;> nofun
    simp only [if_neg hm, hty, aggEq, hop, ha, hb, and_self, if_true]
  | scalar hlit hty ha hb hbin =>
    have : (if op = .mul then litFactor a else none) = none ∧ (if op = .mul then litFactor b else none) = none := by
      by_cases hm : op = .mul
      · simp only [if_pos hm, hlit hm, and_self]
      · simp only [if_neg hm, and_self]
    simp only [this, hty, ha, hb, hbin, and_self, if_true]

theorem bitArms_cons_eq {call : Ctx} {benv1 : BEnv} {ts : Ty} {scrut : List Bool} {pat : Pat} {e : Expr} {rest : Arms} {hasPrev m : Bool}
    {ret : Option (VTy × List Bool)} {pacc pe : P} {envAcc bb enve : BEnv} {te : VTy} {be : List Bool}
    (hp : patG pat ts scrut = some (m, bb)) (he : bitExpr call (armEnv bb benv1) e = some (te, be, pe, enve))
    (hty : ∀ tr rbits, ret = some (tr, rbits) → tr = te) :
    bitArms call benv1 ts scrut (.cons pat e rest) (hasPrev, ret, pacc, envAcc) =
      bitArms call benv1 ts scrut rest (hasPrev || m,
        some (te, if !hasPrev && m then be else (ret.map (·.2)).getD (List.replicate be.length false)),
        if !hasPrev && m then pe else pacc, muxEnv (!hasPrev && m) (armOut bb enve) envAcc) := by
  simp only [bitArms, hp, he]
  match ret, hty with
  | none, _ => rfl
  | some (tr, rbits), hty => simp only [hty tr rbits rfl, if_true, Option.map_some, Option.getD_some]

theorem bitStmt_for_eq {call : Ctx} {benv benv' env1 : BEnv} {pat : Pat} {arr : Expr} {body : StmtList} {te : Ty} {n : Nat}
    {abits : List Bool} {pa p : P} (ha : bitExpr call benv arr = some (.agg (.array te n), abits, pa, env1))
    (hirr : irrefutable te pat = true)
    (hl : foldLoop (loopStep call pat te body) (chunks te.size n abits) (pa, env1) = some (p, benv')) :
    bitStmt call benv (.for_ pat arr body) = some (.unit, [], p, benv') := by
  simp only [bitStmt, ha, hirr, if_true]
  -- the step function written out in `bitStmt` is `loopStep` unfolded
  generalize hfl : foldLoop _ (chunks te.size n abits) (pa, env1) = r
  cases (hfl.symm.trans hl : r = some (p, benv'))
  rfl

theorem bindParams_cons {x : String} {ty : Ty} {ps : List (String × Ty)} {a : VTy × List Bool} {as : List (VTy × List Bool)}
    {callee : BEnv} (h : bindParams ((x, ty) :: ps) (a :: as) = some callee) :
    ∃ env, VTy.ofTy ty = a.1 ∧ bindParams ps as = some env ∧ env ++ [(x, a.1, a.2)] = callee := by
  obtain ⟨t, bs⟩ := a
  dsimp only [bindParams] at h
  obtain ⟨_, h⟩ := Option.ite_none_right_eq_some.mp h
  split at h <;> try contradiction
  cases h
  exact ⟨_, ‹_›, ‹_›, rfl⟩

theorem constEnvOf_cons {tys : List (String × Ty)} {x : String} {v : Val} {rest : List (String × Val)} {cb : BEnv}
    (h : constEnvOf tys ((x, v) :: rest) = some cb) :
    ∃ y ty cb', tys.find? (·.1 == x) = some (y, ty) ∧ constEnvOf tys rest = some cb' ∧ v.hasType ty = true ∧
      (x, VTy.ofTy ty, v.encode ty) :: cb' = cb := by
  dsimp only [constEnvOf] at h
  split at h <;> try contradiction
  obtain ⟨_, h⟩ := Option.ite_none_right_eq_some.mp h
  cases h
  exact ⟨_, _, _, ‹_›, ‹_›, ‹_›, rfl⟩

/-- a call inlined: the body of the callee, compiled from its parameters and the constants, one level less deep -/
theorem callAt_succ {prog : Prog} {n : Nat} {fn : String} {vs : List (VTy × List Bool)}
    (h : callAt prog (n + 1) fn vs = some (t, bs, p)) :
    ∃ d cb callee env', prog.fn? fn = some d ∧ constEnv prog = some cb ∧ bindParams d.params vs = some callee ∧
      bitStmts ⟨callAt prog n, prog.enum?⟩ (callee ++ cb) d.body = some (t, bs, p, env') := by
  dsimp only [callAt] at h
  split at h <;> try contradiction
  split at h <;> try contradiction
  split at h <;> try contradiction
  cases h
  exact ⟨_, _, _, _, ‹_›, ‹_›, ‹_›, ‹_›⟩

end Bit
end GV
