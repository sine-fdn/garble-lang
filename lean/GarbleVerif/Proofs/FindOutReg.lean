import GarbleVerif.Model.RegAlloc
import GarbleVerif.Proofs.Util
/-! Specification of `find_out_reg`: the returned register is not in use by any wire that is
still mapped, nor in the free list, and the bookkeeping invariants are kept. -/
namespace GV
namespace Reg

/-- `wire_map.get(w)` -/
def regOf (st : Alloc) (w : Nat) : Option Nat := st.wireMap.getD w none

theorem regOf_lt_length {st : Alloc} {w r : Nat} (h : regOf st w = some r) : w < st.wireMap.length := by
  rcases Nat.lt_or_ge w st.wireMap.length with hlt | hge
  · exact hlt
  · simp [regOf, List.getD_eq_getElem?_getD, List.getElem?_eq_none hge] at h

/-- bookkeeping part of the allocator invariant -/
structure Pre (st : Alloc) : Prop where
  mappedLt : ∀ w r, regOf st w = some r → r < st.next
  inj : ∀ w w' r, regOf st w = some r → regOf st w' = some r → w = w'
  freeNodup : st.free.Nodup
  freeOk : ∀ r, r ∈ st.free → r < st.next ∧ ∀ w, regOf st w ≠ some r

/-- what `find_out_reg` guarantees -/
structure FSpec (last : List LastUse) (g : Nat) (st : Alloc) (out : Nat) (st1 : Alloc) : Prop where
  shrink : ∀ w r, regOf st1 w = some r → regOf st w = some r
  keep : ∀ w r, regOf st w = some r → last.getD w .never ≠ .at g → regOf st1 w = some r
  fresh : ∀ w r, regOf st1 w = some r → r ≠ out
  outLt : out < st1.next
  nextMono : st.next ≤ st1.next
  nextLe : st1.next ≤ st.next + 1
  freeNodup : st1.free.Nodup
  freeOk : ∀ r, r ∈ st1.free → r < st1.next ∧ r ≠ out ∧ ∀ w, regOf st1 w ≠ some r
  mapLen : st1.wireMap.length = st.wireMap.length
  insts : st1.insts = st.insts
  andOps : st1.andOps = st.andOps

def unmap (st : Alloc) (a : Nat) : Alloc := { st with wireMap := st.wireMap.set a none }

theorem regOf_unmap (st : Alloc) (a w : Nat) (h : a < st.wireMap.length) :
    regOf (unmap st a) w = if a = w then none else regOf st w := by
  simp only [regOf, unmap, getD_set, h, and_true]

theorem regOf_unmap_some {st : Alloc} {a w r : Nat} (h : a < st.wireMap.length)
    (hw : regOf (unmap st a) w = some r) : a ≠ w ∧ regOf st w = some r := by
  rw [regOf_unmap _ _ _ h] at hw
  split at hw
  · cases hw
  · exact ⟨‹_›, hw⟩

/-- release one dying operand and reuse its register -/
theorem fspec_reuse1 {last : List LastUse} {g : Nat} {st : Alloc} (hp : Pre st) {a ra : Nat}
    (ha : regOf st a = some ra) (hla : last.getD a .never = .at g) :
    FSpec last g st ra (unmap st a) := by
  have hal := regOf_lt_length ha
  refine ⟨fun w r h => (regOf_unmap_some hal h).2, ?_, ?_, hp.mappedLt a ra ha, Nat.le_refl _,
    Nat.le_succ _, hp.freeNodup, ?_, by simp [unmap], rfl, rfl⟩
  · intro w r h hl
    rw [regOf_unmap _ _ _ hal, if_neg (fun e => hl (by rw [← e]; exact hla))]
    exact h
  · intro w r h e
    subst e
    obtain ⟨hne, h⟩ := regOf_unmap_some hal h
    exact hne (hp.inj a w r ha h)
  · intro r hr
    obtain ⟨h1, h2⟩ := hp.freeOk r hr
    exact ⟨h1, fun e => h2 a (e ▸ ha), fun w h => h2 w (regOf_unmap_some hal h).2⟩

/-- release one more dying operand: its register goes on the free list -/
theorem FSpec.release {last : List LastUse} {g : Nat} {st st1 : Alloc} {out : Nat} (hp : Pre st)
    (hf : FSpec last g st out st1) {b rb : Nat} (hb : regOf st1 b = some rb)
    (hlb : last.getD b .never = .at g) :
    FSpec last g st out { unmap st1 b with free := rb :: st1.free } := by
  have hbl := regOf_lt_length hb
  have hb0 := hf.shrink b rb hb
  have sub : ∀ {w r}, regOf { unmap st1 b with free := rb :: st1.free } w = some r →
      b ≠ w ∧ regOf st1 w = some r := regOf_unmap_some hbl
  refine ⟨fun w r h => hf.shrink w r (sub h).2, ?_, fun w r h => hf.fresh w r (sub h).2,
    hf.outLt, hf.nextMono, hf.nextLe, ?_, ?_, by simp [unmap, hf.mapLen], hf.insts, hf.andOps⟩
  · intro w r h hl
    show regOf (unmap st1 b) w = some r
    rw [regOf_unmap _ _ _ hbl, if_neg (fun e => hl (by rw [← e]; exact hlb))]
    exact hf.keep w r h hl
  · exact List.nodup_cons.mpr ⟨fun hm => (hf.freeOk rb hm).2.2 b hb, hf.freeNodup⟩
  · intro r hr
    rcases List.mem_cons.mp hr with rfl | hr
    · refine ⟨Nat.lt_of_lt_of_le (hp.mappedLt b r hb0) hf.nextMono, hf.fresh b r hb, fun w h => ?_⟩
      obtain ⟨hne, h⟩ := sub h
      exact hne (hp.inj b w r hb0 (hf.shrink w r h))
    · obtain ⟨h1, h2, h3⟩ := hf.freeOk r hr
      exact ⟨h1, h2, fun w h => h3 w (sub h).2⟩

/-- nothing dies: pop a free register -/
theorem fspec_pop {last : List LastUse} {g : Nat} {st : Alloc} (hp : Pre st) {reg : Nat} {rest : List Nat}
    (hf : st.free = reg :: rest) : FSpec last g st reg { st with free := rest } := by
  have hnd : (reg :: rest).Nodup := hf ▸ hp.freeNodup
  have hmem : reg ∈ st.free := by rw [hf]; simp
  obtain ⟨h1, h2⟩ := hp.freeOk reg hmem
  refine ⟨fun _ _ h => h, fun _ _ h _ => h, ?_, h1, Nat.le_refl _, Nat.le_succ _, (List.nodup_cons.mp hnd).2, ?_, rfl, rfl, rfl⟩
  · intro w r h e; subst e; exact h2 w h
  · intro r hr
    have hr' : r ∈ st.free := by rw [hf]; simp [hr]
    obtain ⟨h3, h4⟩ := hp.freeOk r hr'
    refine ⟨h3, ?_, h4⟩
    intro e; subst e
    exact (List.nodup_cons.mp hnd).1 hr

/-- nothing dies and nothing is free: allocate the next register -/
theorem fspec_fresh {last : List LastUse} {g : Nat} {st : Alloc} (hp : Pre st) (hf : st.free = []) :
    FSpec last g st st.next { st with next := st.next + 1 } := by
  refine ⟨fun _ _ h => h, fun _ _ h _ => h, ?_, Nat.lt_succ_self _, Nat.le_succ _, Nat.le_refl _, by simp [hf], ?_, rfl, rfl, rfl⟩
  · intro w r h e; subst e
    exact Nat.lt_irrefl _ (hp.mappedLt w _ h)
  · intro r hr
    simp [hf] at hr

theorem fspec_none {last : List LastUse} {g : Nat} {st : Alloc} (hp : Pre st) :
    ∃ out st1, (match st.free with
      | reg :: rest => some (reg, { st with free := rest })
      | [] => some (st.next, { st with next := st.next + 1 })) = some (out, st1) ∧
      FSpec last g st out st1 := by
  split
  · rename_i reg rest hf; exact ⟨_, _, rfl, fspec_pop hp hf⟩
  · rename_i hf; exact ⟨_, _, rfl, fspec_fresh hp hf⟩

/-- **`find_out_reg` never panics on a mapped first operand and satisfies `FSpec`.** -/
theorem findOutReg_spec (last : List LastUse) (st : Alloc) (g a : Nat) (b : Option Nat) (hp : Pre st)
    {ra : Nat} (ha : regOf st a = some ra) :
    ∃ out st1, findOutReg last st g a b = some (out, st1) ∧ FSpec last g st out st1 := by
  have ha' : st.wireMap.getD a none = some ra := ha
  by_cases hla : last.getD a .never = .at g
  · -- the first operand dies here
    cases b with
    | none =>
      exact ⟨ra, unmap st a, by simp only [findOutReg, hla, ha', unmap, ↓reduceIte], fspec_reuse1 hp ha hla⟩
    | some b =>
      by_cases hlb : last.getD b .never = .at g
      · cases hb : regOf (unmap st a) b with
        | none =>
          -- `b = a` (just unmapped, e.g. `x ^ x`) or `b` is unmapped: nothing more to release
          have hb' : (st.wireMap.set a none).getD b none = none := hb
          exact ⟨ra, unmap st a, by simp only [findOutReg, hla, ha', hlb, hb', unmap, ↓reduceIte], fspec_reuse1 hp ha hla⟩
        | some rb =>
          have hb' : (st.wireMap.set a none).getD b none = some rb := hb
          exact ⟨ra, _, by simp only [findOutReg, hla, ha', hlb, hb', unmap, ↓reduceIte], (fspec_reuse1 hp ha hla).release hp hb hlb⟩
      · exact ⟨ra, unmap st a, by simp only [findOutReg, hla, ha', hlb, unmap, ↓reduceIte], fspec_reuse1 hp ha hla⟩
  · -- the first operand stays alive
    cases b with
    | none =>
      obtain ⟨out, st1, h1, h2⟩ := fspec_none (last := last) (g := g) hp
      exact ⟨out, st1, by simp only [findOutReg, hla, ↓reduceIte]; exact h1, h2⟩
    | some b =>
      by_cases hlb : last.getD b .never = .at g
      · cases hb : regOf st b with
        | none =>
          have hb' : st.wireMap.getD b none = none := hb
          obtain ⟨out, st1, h1, h2⟩ := fspec_none (last := last) (g := g) hp
          exact ⟨out, st1, by simp only [findOutReg, hla, hlb, hb', ↓reduceIte]; exact h1, h2⟩
        | some rb =>
          have hb' : st.wireMap.getD b none = some rb := hb
          exact ⟨rb, unmap st b, by simp only [findOutReg, hla, hlb, hb', unmap, ↓reduceIte], fspec_reuse1 hp hb hlb⟩
      · obtain ⟨out, st1, h1, h2⟩ := fspec_none (last := last) (g := g) hp
        exact ⟨out, st1, by simp only [findOutReg, hla, hlb, ↓reduceIte]; exact h1, h2⟩

end Reg
end GV
