import GarbleVerif.Model.Reg
import GarbleVerif.Proofs.SsaEval
/-! Register circuits: the equations of `validate` (`OpOk` is what it checks of one instruction), `eval?`
and `evalRaw?`, and C16 for a list of instructions: validated instructions and outputs have a strict run (no undefined
register is read, no index is out of range; a converse is in `ConvertValid`), and the raw evaluator follows the strict
one. The statements about a circuit are `C16_reg` / `C16_reg_raw` in Props/C16. (Two simulations: `Rel` between
`register_set` and the strict register file, `RawRel` between the strict and the raw file.) -/
namespace GV
namespace Reg
namespace RCircuit

theorem readReg_eq_some {regs : List (Option Bool)} {r : Nat} {v : Bool} :
    readReg regs r = some v ↔ regs[r]? = some (some v) := by
  unfold readReg
  split
  · rename_i w h; simp [h]
  · rename_i h; simpa using h v

theorem readReg_lt {regs : List (Option Bool)} {r : Nat} {v : Bool} (h : readReg regs r = some v) :
    r < regs.length :=
  (List.getElem?_eq_some_iff.mp (readReg_eq_some.mp h)).1

theorem readReg_set (regs : List (Option Bool)) (o r : Nat) (v : Bool) :
    readReg (regs.set o (some v)) r = if o = r ∧ o < regs.length then some v else readReg regs r := by
  unfold readReg
  rw [List.getElem?_set]
  by_cases h : o = r
  · subst h
    by_cases hl : o < regs.length <;> simp [hl]
  · simp [h]

theorem isSet_set (set : List Bool) (o r : Nat) :
    isSet (set.set o true) r = true ↔ (o = r ∧ o < set.length) ∨ isSet set r = true := by
  rw [isSet, getD_set]
  split
  · exact ⟨fun _ => .inl ‹_›, fun _ => rfl⟩
  · exact ⟨.inr, fun h => h.resolve_left ‹_›⟩

theorem strictInsts_cons_eq_some {ins : List (List Bool)} {inst : Inst} {rest : List Inst}
    {regs regsF : List (Option Bool)} :
    strictInsts ins (inst :: rest) regs = some regsF ↔
      ∃ v, strictOp ins regs inst.op = some v ∧ inst.out < regs.length ∧
        strictInsts ins rest (regs.set inst.out (some v)) = some regsF := by
  simp only [strictInsts]
  cases strictOp ins regs inst.op with
  | none => simp
  | some v => by_cases h : inst.out < regs.length <;> simp [h]

/-- what `validateInst` checks of the operation of instruction `i`, which writes register `out` -/
def OpOk (inputRegs : List Nat) (n : Nat) (set : List Bool) (i out : Nat) : Op → Prop
  | .input p idx => i = out ∧ ∃ sz, inputRegs[p]? = some sz ∧ idx < sz
  | .xor x y | .and x y => (x < n ∧ y < n) ∧ isSet set x = true ∧ isSet set y = true
  | .not x => x < n ∧ isSet set x = true

theorem validateInst_ok {inputRegs n set i inst set'}
    (h : validateInst inputRegs n set i inst = .ok set') :
    inst.out < n ∧ OpOk inputRegs n set i inst.out inst.op ∧ set' = set.set inst.out true := by
  unfold validateInst at h
  obtain ⟨hout, h⟩ := ite_error_eq_ok.mp h
  dsimp only at h
  split at h
  · cases h
  · rename_i hok
    refine ⟨by simpa using hout, ?_, by simpa using h.symm⟩
    cases hop : inst.op with
    | input p idx =>
      rw [hop] at hok
      obtain ⟨hi, hok⟩ := ite_error_eq_ok.mp hok
      cases hp : inputRegs[p]? with
      | none => simp [hp] at hok
      | some sz => exact ⟨by simpa using hi, sz, hp, by simpa [hp, ite_error_eq_ok] using hok⟩
    | xor x y | and x y => simpa [hop, OpOk, ite_error_eq_ok] using hok
    | not x => simpa [hop, OpOk, ite_error_eq_ok] using hok

theorem validateInst_of_opOk {inputRegs n set i inst} (hout : inst.out < n)
    (hop : OpOk inputRegs n set i inst.out inst.op) :
    validateInst inputRegs n set i inst = .ok (set.set inst.out true) := by
  unfold validateInst
  cases h : inst.op with
  | input p idx =>
    obtain ⟨hi, sz, hsz, hidx⟩ := h ▸ hop
    simp [hout, hi, hsz, hidx]
  | xor x y | and x y =>
    obtain ⟨⟨hx, hy⟩, sx, sy⟩ := h ▸ hop
    simp [hout, hx, hy, sx, sy]
  | not x =>
    obtain ⟨hx, sx⟩ := h ▸ hop
    simp [hout, hx, sx]

theorem validateInsts_cons {inputRegs n inst rest i set setF} :
    validateInsts inputRegs n (inst :: rest) i set = .ok setF ↔
      (inst.out < n ∧ OpOk inputRegs n set i inst.out inst.op) ∧
        validateInsts inputRegs n rest (i + 1) (set.set inst.out true) = .ok setF := by
  simp only [validateInsts]
  constructor
  · intro h
    split at h
    · cases h
    · rename_i set' hi
      obtain ⟨hout, hop, rfl⟩ := validateInst_ok hi
      exact ⟨⟨hout, hop⟩, h⟩
  · rintro ⟨⟨hout, hop⟩, h⟩
    simpa [validateInst_of_opOk hout hop] using h

/-- the party and index of an `Input` instruction pass `validate` exactly if the input bit exists -/
theorem input_some {sizes : List Nat} {ins : List (List Bool)} (hs : Circuit.shapeOk sizes ins = true)
    {p idx : Nat} : (∃ sz, sizes[p]? = some sz ∧ idx < sz) ↔
      ∃ v, (do let party ← ins[p]?; party[idx]?) = some v := by
  simp only [Circuit.shapeOk, beq_iff_eq] at hs
  subst hs
  cases hq : ins[p]? with
  | none => simp [hq]
  | some party => simp [hq, ← Option.isSome_iff_exists]

theorem validateOutputs_eq_ok {n : Nat} {os : List Nat} :
    validateOutputs n os = .ok () ↔ ∀ o ∈ os, o < n := by
  induction os with
  | nil => simp [validateOutputs]
  | cons o os ih => by_cases h : o < n <;> simp [validateOutputs, h, ih]

theorem validateOutputsSet_eq_ok {set : List Bool} {os : List Nat} :
    validateOutputsSet set os = .ok () ↔ ∀ o ∈ os, isSet set o = true := by
  induction os with
  | nil => simp [validateOutputsSet]
  | cons o os ih =>
    rw [validateOutputsSet, ← isSet]
    by_cases h : isSet set o = true <;> simp [h, ih]

theorem validate_eq_ok {c : RCircuit} : c.validate = .ok () ↔
    c.inputRegs.all (· == 0) = false ∧ c.outputRegs ≠ [] ∧
    validateOutputs c.maxRegCount c.outputRegs = .ok () ∧ c.insts.length ≤ MAX_GATES ∧
    ∃ set, validateInsts c.inputRegs c.maxRegCount c.insts 0 (List.replicate c.maxRegCount false) = .ok set ∧
      validateOutputsSet set c.outputRegs = .ok () := by
  unfold validate
  rw [ite_error_eq_ok, ite_error_eq_ok, Bool.not_eq_true, List.isEmpty_iff]
  refine and_congr_right fun _ => and_congr_right fun _ => ?_
  cases validateOutputs c.maxRegCount c.outputRegs with
  | error e => simp
  | ok u =>
    dsimp only
    rw [ite_error_eq_ok, Nat.not_lt]
    cases validateInsts c.inputRegs c.maxRegCount c.insts 0 (List.replicate c.maxRegCount false) with
    | error e => simp
    | ok set => simp

theorem eval?_eq_some {c : RCircuit} {ins : List (List Bool)} {out : List Bool} :
    c.eval? ins = some out ↔ Circuit.shapeOk c.inputRegs ins = true ∧
      ∃ regs, strictInsts ins c.insts (List.replicate c.maxRegCount none) = some regs ∧
        c.outputRegs.mapM (fun r => readReg regs r) = some out := by
  unfold eval?
  cases Circuit.shapeOk c.inputRegs ins with
  | false => simp
  | true => cases strictInsts ins c.insts (List.replicate c.maxRegCount none) <;> simp

theorem evalRaw?_eq_some {c : RCircuit} {ins : List (List Bool)} {out : List Bool} :
    c.evalRaw? ins = some out ↔ Circuit.shapeOk c.inputRegs ins = true ∧
      ∃ regs, rawInsts ins c.insts (List.replicate c.maxRegCount false) = some regs ∧
        c.outputRegs.mapM (fun r => regs[r]?) = some out := by
  unfold evalRaw?
  cases Circuit.shapeOk c.inputRegs ins with
  | false => simp
  | true => cases rawInsts ins c.insts (List.replicate c.maxRegCount false) <;> simp

/-! ### `validate` accepts ⇒ the strict run succeeds -/

/-- `set` marks only registers that are defined in `regs` -/
structure Rel (set : List Bool) (regs : List (Option Bool)) : Prop where
  len : set.length = regs.length
  defd : ∀ r, isSet set r = true → ∃ v, readReg regs r = some v

theorem Rel.init (n : Nat) : Rel (List.replicate n false) (List.replicate n none) := by
  refine ⟨by simp, fun r h => ?_⟩
  simp [isSet, List.getD_eq_getElem?_getD, List.getElem?_replicate] at h
  split at h <;> simp at h

theorem Rel.set {set regs} (h : Rel set regs) (o : Nat) (v : Bool) :
    Rel (set.set o true) (regs.set o (some v)) := by
  refine ⟨by simp [h.len], fun r hr => ?_⟩
  rw [readReg_set, ← h.len]
  rcases (isSet_set ..).mp hr with hor | hr
  · exact ⟨v, if_pos hor⟩
  · split
    · exact ⟨v, rfl⟩
    · exact h.defd r hr

theorem Rel.strictOp {inputRegs n set regs i out op} {ins : List (List Bool)} (hr : Rel set regs)
    (hs : Circuit.shapeOk inputRegs ins = true) (hop : OpOk inputRegs n set i out op) :
    ∃ v, strictOp ins regs op = some v := by
  cases op with
  | input p idx => exact (input_some hs).mp hop.2
  | xor x y | and x y =>
    obtain ⟨a, ha⟩ := hr.defd x hop.2.1
    obtain ⟨b, hb⟩ := hr.defd y hop.2.2
    rw [RCircuit.strictOp, ha, hb]
    exact ⟨_, rfl⟩
  | not x =>
    obtain ⟨a, ha⟩ := hr.defd x hop.2
    rw [RCircuit.strictOp, ha]
    exact ⟨_, rfl⟩

theorem validateInsts_strict {inputRegs n} (insts : List Inst) {i set setF}
    {regs : List (Option Bool)} {ins : List (List Bool)}
    (hv : validateInsts inputRegs n insts i set = .ok setF) (hr : Rel set regs)
    (hn : regs.length = n) (hs : Circuit.shapeOk inputRegs ins = true) :
    ∃ regsF, strictInsts ins insts regs = some regsF ∧ Rel setF regsF := by
  induction insts generalizing i set regs with
  | nil =>
    simp only [validateInsts, Except.ok.injEq] at hv
    exact ⟨regs, rfl, hv ▸ hr⟩
  | cons inst rest ih =>
    obtain ⟨⟨hout, hop⟩, hv⟩ := validateInsts_cons.mp hv
    obtain ⟨v, hv'⟩ := hr.strictOp hs hop
    obtain ⟨regsF, hF, hrel⟩ := ih hv (hr.set inst.out v) (by simp [hn])
    exact ⟨regsF, strictInsts_cons_eq_some.mpr ⟨v, hv', hn ▸ hout, hF⟩, hrel⟩

theorem outputs_strict {set regs} (hr : Rel set regs) (os : List Nat)
    (h : validateOutputsSet set os = .ok ()) :
    ∃ out, os.mapM (fun r => readReg regs r) = some out ∧ out.length = os.length :=
  mapM_eq_some_of_forall fun o ho => hr.defd o (validateOutputsSet_eq_ok.mp h o ho)

/-! ### strict ⇒ raw -/

structure RawRel (regs : List Bool) (sregs : List (Option Bool)) : Prop where
  len : regs.length = sregs.length
  read : ∀ (r : Nat) (v : Bool), readReg sregs r = some v → regs[r]? = some v

theorem RawRel.init (n : Nat) : RawRel (List.replicate n false) (List.replicate n none) := by
  refine ⟨by simp, fun r v h => ?_⟩
  simp [readReg_eq_some, List.getElem?_replicate] at h

theorem RawRel.set {regs sregs} (h : RawRel regs sregs) (o : Nat) (v : Bool) :
    RawRel (regs.set o v) (sregs.set o (some v)) := by
  refine ⟨by simp [h.len], fun r w hw => ?_⟩
  rw [readReg_set] at hw
  rw [List.getElem?_set, h.len]
  by_cases hro : o = r
  · subst hro
    by_cases hl : o < sregs.length
    · simpa [hl] using hw
    · exact absurd (readReg_lt (by simpa [hl] using hw)) hl
  · simpa [hro] using h.read r w (by simpa [hro] using hw)

theorem strictOp_raw {ins regs sregs op v} (h : RawRel regs sregs)
    (hs : strictOp ins sregs op = some v) : rawOp ins regs op = some v := by
  cases op with
  | input p i => exact hs
  | xor a b | and a b =>
    simp only [strictOp, Option.bind_eq_bind, Option.bind_eq_some_iff] at hs
    obtain ⟨x, hx, y, hy, hv⟩ := hs
    simpa [rawOp, h.read a x hx, h.read b y hy] using hv
  | not a =>
    simp only [strictOp, Option.bind_eq_bind, Option.bind_eq_some_iff] at hs
    obtain ⟨x, hx, hv⟩ := hs
    simpa [rawOp, h.read a x hx] using hv

theorem strictInsts_raw {ins} (insts : List Inst) {regs sregs sregsF}
    (h : RawRel regs sregs) (hs : strictInsts ins insts sregs = some sregsF) :
    ∃ regsF, rawInsts ins insts regs = some regsF ∧ RawRel regsF sregsF := by
  induction insts generalizing regs sregs with
  | nil =>
    simp only [strictInsts, Option.some.injEq] at hs
    exact ⟨regs, rfl, hs ▸ h⟩
  | cons inst rest ih =>
    obtain ⟨v, hv, hout, hs⟩ := strictInsts_cons_eq_some.mp hs
    obtain ⟨regsF, hF, hrel⟩ := ih (h.set inst.out v) hs
    exact ⟨regsF, by simp [rawInsts, strictOp_raw h hv, h.len, hout, hF], hrel⟩

end RCircuit
open RCircuit

def notInput : Op → Prop
  | .input _ _ => False
  | _ => True

theorem strictInsts_length {ins : List (List Bool)} (insts : List Inst) {regs regs' : List (Option Bool)}
    (h : strictInsts ins insts regs = some regs') : regs'.length = regs.length := by
  induction insts generalizing regs with
  | nil => simp [strictInsts] at h; subst h; rfl
  | cons i is ih =>
    obtain ⟨v, _, _, h⟩ := strictInsts_cons_eq_some.mp h
    simpa using ih h

theorem strictInsts_append (ins : List (List Bool)) (xs ys : List Inst) (regs : List (Option Bool)) :
    strictInsts ins (xs ++ ys) regs = (strictInsts ins xs regs).bind (strictInsts ins ys) := by
  induction xs generalizing regs with
  | nil => rfl
  | cons x xs ih =>
    simp only [List.cons_append, strictInsts]
    split
    · rfl
    · split
      · exact ih _
      · rfl

end Reg
end GV
