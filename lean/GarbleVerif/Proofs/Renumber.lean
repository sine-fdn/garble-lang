import GarbleVerif.Proofs.BuilderSem
/-!
The final renumbering of `CircuitBuilder::build` (circuit.rs) — builder numbering (0/1 constants,
inputs, gates) to the final SSA numbering (inputs, `Xor(0,0)`, `Not(n)`, gates).
-/
namespace GV
namespace Builder

def sgateVal (ws : List Bool) : Gate → Bool
  | .xor a b => ws.getD a false ^^ ws.getD b false
  | .and a b => ws.getD a false && ws.getD b false
  | .not a => !ws.getD a false

def sstep (ws : List Bool) (g : Gate) : List Bool := ws ++ [sgateVal ws g]
def svalsFrom (init : List Bool) (gs : List Gate) : List Bool := gs.foldl sstep init


/-- relation between builder-numbered values and final-numbered values -/
structure Rel (shift : Nat) (bv sv : List Bool) : Prop where
  len : sv.length = bv.length
  ge : shift ≤ bv.length
  zero : bv.getD 0 false = false
  one : bv.getD 1 false = true
  map : ∀ w, w < bv.length → sv.getD (fIdx shift w) false = bv.getD w false

theorem fIdx_const {shift w : Nat} (h : w ≤ 1) : fIdx shift w = w + (shift - 2) := by
  simp [fIdx, h]

theorem fIdx_inp {shift w : Nat} (h1 : 2 ≤ w) (h2 : w < shift) : fIdx shift w = w - 2 := by
  have : ¬ w ≤ 1 := by omega
  simp [fIdx, this, h2]

theorem fIdx_gate {shift w : Nat} (hs : 2 ≤ shift) (h : shift ≤ w) : fIdx shift w = w := by
  have h1 : ¬ w ≤ 1 := by omega
  have h2 : ¬ w < shift := by omega
  simp [fIdx, h1, h2]

theorem fIdx_lt {shift w n : Nat} (hs : 2 ≤ shift) (hn : shift ≤ n) (hw : w < n) : fIdx shift w < n := by
  rcases Nat.lt_or_ge w 2 with h | h
  · rw [fIdx_const (Nat.le_of_lt_succ h)]
    refine Nat.lt_of_lt_of_le (Nat.add_lt_add_right h _) ?_
    rw [Nat.add_sub_cancel' hs]; exact hn
  · rcases Nat.lt_or_ge w shift with h' | h'
    · rw [fIdx_inp h h']; exact Nat.lt_of_le_of_lt (Nat.sub_le _ _) hw
    · rw [fIdx_gate hs h']; exact hw

theorem rel_step {shift : Nat} (hs : 2 ≤ shift) {bv sv : List Bool} (h : Rel shift bv sv) (g : BGate)
    (hg : opsLt g bv.length) :
    Rel shift (bv ++ [gateVal bv g]) (sv ++ [sgateVal sv (convGate shift g)]) := by
  have hval : sgateVal sv (convGate shift g) = gateVal bv g := by
    cases g with
    | xor x y =>
      obtain ⟨hx, hy⟩ := hg
      simp only [convGate]
      split
      · rename_i hx1; subst hx1
        simp only [sgateVal, gateVal, h.map y hy, h.one]; cases bv.getD y false <;> rfl
      · split
        · rename_i hy1; subst hy1
          simp only [sgateVal, gateVal, h.map x hx, h.one]; cases bv.getD x false <;> rfl
        · simp only [sgateVal, gateVal, h.map x hx, h.map y hy]
    | and x y =>
      obtain ⟨hx, hy⟩ := hg
      simp only [convGate, sgateVal, gateVal, h.map x hx, h.map y hy]
  have h2 : 2 ≤ bv.length := Nat.le_trans hs h.ge
  refine ⟨by rw [List.length_append, List.length_append, h.len]; rfl,
    Nat.le_trans h.ge (by rw [List.length_append]; exact Nat.le_add_right _ _), ?_, ?_, fun w hw => ?_⟩
  · rw [getD_append_lt _ _ (Nat.lt_of_succ_lt h2)]; exact h.zero
  · rw [getD_append_lt _ _ h2]; exact h.one
  · rcases Nat.lt_or_ge w bv.length with hlt | hge
    · rw [getD_append_lt _ _ hlt, getD_append_lt _ _ (by rw [h.len]; exact fIdx_lt hs h.ge hlt)]
      exact h.map w hlt
    · rw [List.length_append] at hw
      obtain rfl : w = bv.length := Nat.le_antisymm (Nat.le_of_lt_succ hw) hge
      rw [fIdx_gate hs h.ge, getD_append_length, ← h.len, getD_append_length, hval]

theorem rel_fold {shift : Nat} (hs : 2 ≤ shift) (gs : List BGate) (bv sv : List Bool) (h : Rel shift bv sv)
    (hwf : ∀ i g, gs[i]? = some g → opsLt g (bv.length + i)) :
    Rel shift (valsFrom bv gs) (svalsFrom sv (gs.map (convGate shift))) := by
  induction gs generalizing bv sv with
  | nil => exact h
  | cons g gs ih =>
    refine ih (bv ++ [gateVal bv g]) (sv ++ [sgateVal sv (convGate shift g)]) (rel_step hs h g (hwf 0 g rfl))
      fun i g' hi => ?_
    rw [List.length_append, List.length_singleton, Nat.add_assoc, Nat.add_comm 1 i]
    exact hwf (i + 1) g' hi

/-- base: after the two constant gates the final numbering is `inp ++ [false, true]` -/
theorem rel_base (inp : List Bool) :
    Rel (inp.length + 2) (false :: true :: inp)
      (svalsFrom inp [.xor 0 0, .not inp.length]) := by
  have h1 : svalsFrom inp [.xor 0 0, .not inp.length] = inp ++ [false] ++ [true] := by
    simp only [svalsFrom, List.foldl_cons, List.foldl_nil, sstep, sgateVal, Bool.xor_self]
    rw [getD_append_length]; rfl
  rw [h1]
  refine ⟨by rw [List.length_append, List.length_append]; rfl, Nat.le_refl _, rfl, rfl, fun w hw => ?_⟩
  have hlen : (inp ++ [false]).length = inp.length + 1 := List.length_append
  match w with
  | 0 =>
    rw [fIdx_const (Nat.zero_le 1), Nat.zero_add, Nat.add_sub_cancel, getD_append_lt _ _ (hlen ▸ Nat.lt_succ_self _),
      getD_append_length]; rfl
  | 1 =>
    rw [fIdx_const (Nat.le_refl 1), Nat.add_sub_cancel, Nat.add_comm, ← hlen, getD_append_length]; rfl
  | w + 2 =>
    have hw : w + 2 < inp.length + 2 := hw
    have hw' : w < inp.length := Nat.lt_of_add_lt_add_right hw
    rw [fIdx_inp (Nat.le_add_left 2 w) hw, Nat.add_sub_cancel, getD_append_lt _ _ (hlen ▸ Nat.lt_succ_of_lt hw'),
      getD_append_lt _ _ hw']
    rfl

/-- **renumbering is sound**: the final circuit's wire `fIdx w` carries the builder's wire `w` — also without inputs
(`sgateVal` reads a missing wire as `false`; only the checked evaluator needs an input). -/
theorem renumber_rel (inp : List Bool) (gs : List BGate)
    (hwf : ∀ i g, gs[i]? = some g → opsLt g (inp.length + 2 + i)) :
    let shift := inp.length + 2
    let bv := valsFrom (false :: true :: inp) gs
    let sv := svalsFrom inp (.xor 0 0 :: .not (shift - 2) :: gs.map (convGate shift))
    sv.length = bv.length ∧ ∀ w, w < bv.length → sv.getD (fIdx shift w) false = bv.getD w false := by
  intro shift bv sv
  -- `svalsFrom inp (c0 :: c1 :: l)` unfolds to `svalsFrom (svalsFrom inp [c0, c1]) l`
  have := rel_fold (Nat.le_add_left 2 inp.length) gs _ _ (rel_base inp) hwf
  exact ⟨this.len, this.map⟩

theorem renumber_sound (inp : List Bool) (hn : 0 < inp.length) (gs : List BGate)
    (hwf : ∀ i g, gs[i]? = some g → opsLt g (inp.length + 2 + i)) :
    let shift := inp.length + 2
    let bv := valsFrom (false :: true :: inp) gs
    let sv := svalsFrom inp (.xor 0 0 :: .not (shift - 2) :: gs.map (convGate shift))
    sv.length = bv.length ∧ ∀ w, w < bv.length → sv.getD (fIdx shift w) false = bv.getD w false :=
  renumber_rel inp gs hwf

end Builder
end GV
