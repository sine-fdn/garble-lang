import GarbleVerif.Proofs.BitOps
/-! `!` on integers: inverting every wire is `-n - 1` wrapped to the type (the complement of the two's complement
pattern). -/
namespace GV
namespace Bit
open Arith
open Src

/-- the wires of `!x` for an integer `x`: every wire inverted -/
theorem enc_not (k : IntTy) (n : Int) : enc k (wrapTo k (-n - 1)) = (enc k n).map (!·) := by
  rw [enc_wrapTo]
  symm
  apply eq_intToBits_of_emod _ k.bits _ (by rw [List.length_map, enc_length])
  -- pattern and complement add up to `2^bits - 1`, and the pattern is `n` up to a multiple of `2^bits`
  have hsum := congrArg (Nat.cast : Nat → Int) (toNat_map_not (enc k n))
  rw [enc_length] at hsum
  push_cast at hsum
  rw [toNat_enc] at hsum
  have hn := Int.emod_add_mul_ediv n ((2 : Int) ^ k.bits)
  have hpos : (0 : Int) < (2 : Int) ^ k.bits := Int.pow_pos (by decide)
  have h0 := Int.emod_nonneg n (Int.ne_of_gt hpos)
  have hd : -n - 1 = (toNat ((enc k n).map (!·)) : Int) + (2 : Int) ^ k.bits * (-(n / (2 : Int) ^ k.bits) - 1) := by
    rw [Int.mul_sub, Int.mul_neg, Int.mul_one]; omega
  rw [hd, Int.add_mul_emod_self_left, Int.emod_eq_of_lt (Int.natCast_nonneg _) (by omega)]

end Bit
end GV
