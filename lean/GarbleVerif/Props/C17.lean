import GarbleVerif.Model.SrcSem
/-!
# C17 — ill-typed programs have no meaning

The source semantics give no value to a program that breaks a static rule: evaluation ends in
`Err.stuck`, which is neither a value nor a panic. These theorems state it rule by rule; they are
the reason why accepting such a program would mean compiling something the specification does not
define. (The type checker `check.rs` itself is not modelled: that it rejects every such program is
explored by the mutation run.)
-/
namespace GV
namespace Src

def IsStuck {α : Type} (r : M α) : Prop := ∃ why, r = .error (.stuck why)

/-- an unknown or out-of-scope identifier -/
theorem C17_unbound_identifier (fuel : Nat) (prog : Prog) (env : Env) (x : String) (h : env.get? x = none) :
    IsStuck (evalExpr (fuel + 1) prog env (.var x)) := by
  dsimp only [evalExpr]
  simp only [h]
  exact ⟨_, rfl⟩

/-- a condition that is not a Boolean -/
theorem C17_condition_not_bool (fuel : Nat) (prog : Prog) (env env1 : Env) (c t f : Expr) (v : Val)
    (hc : evalExpr fuel prog env c = .ok (v, env1)) (hv : ∀ b, v ≠ .bool b) :
    IsStuck (evalExpr (fuel + 1) prog env (.ite c t f)) := by
  dsimp only [evalExpr]
  simp only [hc]
  cases v with
  | bool b => exact absurd rfl (hv b)
  | _ => exact ⟨_, rfl⟩

/-- arithmetic on operands that are not both numbers of the operator's type -/
theorem C17_operand_types (k : IntTy) (b : Bool) (n : Int) :
    IsStuck (binop .add (.int k) (.int n) (.bool b)) ∧ IsStuck (binop .add (.int k) (.bool b) (.int n)) ∧
    IsStuck (binop .lt (.int k) (.int n) (.bool b)) ∧ IsStuck (binop .band .bool (.bool b) (.int n)) ∧
    IsStuck (unop .neg .bool (.bool b)) ∧ IsStuck (unop .not (.int k) (.bool b)) := by
  refine ⟨⟨_, rfl⟩, ⟨_, rfl⟩, ⟨_, rfl⟩, ⟨_, rfl⟩, ⟨_, rfl⟩, ⟨_, rfl⟩⟩

/-- a `let` whose pattern does not match the value (a refutable pattern) -/
theorem C17_refutable_let (fuel : Nat) (prog : Prog) (env env1 : Env) (p : Pat) (e : Expr) (v : Val)
    (he : evalExpr fuel prog env e = .ok (v, env1)) (hp : matchPat p v = none) :
    IsStuck (evalStmt (fuel + 1) prog env (.let_ p e)) := by
  dsimp only [evalStmt]
  simp only [he, hp]
  exact ⟨_, rfl⟩

/-- a loop whose pattern does not match an element -/
theorem C17_refutable_loop_pattern (fuel : Nat) (prog : Prog) (env : Env) (p : Pat) (v : Val) (rest : ValList)
    (body : StmtList) (hp : matchPat p v = none) :
    IsStuck (evalLoop (fuel + 1) prog env p (.cons v rest) body) := by
  dsimp only [evalLoop]
  simp only [hp]
  exact ⟨_, rfl⟩

/-- a call of a function that does not exist, or with the wrong number of arguments -/
theorem C17_unknown_function (fuel : Nat) (prog : Prog) (env env1 : Env) (f : String) (args : ExprList) (vs : ValList)
    (ha : evalList fuel prog env args = .ok (vs, env1)) (hf : prog.fn? f = none) :
    IsStuck (evalExpr (fuel + 1) prog env (.call f args)) := by
  dsimp only [evalExpr]
  simp only [ha, hf]
  exact ⟨_, rfl⟩

theorem C17_argument_count (fuel : Nat) (prog : Prog) (env env1 : Env) (f : String) (args : ExprList) (vs : ValList)
    (d : FnDef) (ha : evalList fuel prog env args = .ok (vs, env1)) (hf : prog.fn? f = some d)
    (hn : d.params.length ≠ vs.length) :
    IsStuck (evalExpr (fuel + 1) prog env (.call f args)) := by
  dsimp only [evalExpr]
  simp only [ha, hf]
  have : (d.params.length != vs.length) = true := by simpa using hn
  simp only [this, if_true]
  exact ⟨_, rfl⟩

/-- assignment to a name that is not bound -/
theorem C17_assign_unbound (fuel : Nat) (prog : Prog) (env env1 : Env) (x : String) (path : Path) (e : Expr)
    (v : Val) (he : evalExpr fuel prog env e = .ok (v, env1)) (hx : env1.get? x = none) :
    IsStuck (evalStmt (fuel + 1) prog env (.assign x path e)) := by
  dsimp only [evalStmt]
  simp only [he, hx]
  exact ⟨_, rfl⟩

/-- a match without a matching arm (a non-exhaustive match reaching an uncovered value) -/
theorem C17_no_arm (fuel : Nat) (prog : Prog) (env : Env) (v : Val) :
    IsStuck (evalArms (fuel + 1) prog env v .nil) := by
  dsimp only [evalArms]
  exact ⟨_, rfl⟩

end Src
end GV
