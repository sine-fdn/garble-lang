import GarbleVerif.Proofs.SsaEval
import GarbleVerif.Proofs.RegEval
/-!
# C16 — a circuit that passes validation can be evaluated safely

For **arbitrary** circuit values (any gate / instruction list, any references, any party
sizes): `validate = ok` and inputs of the declared shape ⇒ the evaluator returns exactly one
bit per declared output, having read only wires / registers / inputs that exist and are
defined.  (`eval?` is `none` exactly where the Rust evaluator indexes out of range or
`unwrap`s an undefined wire; for registers the strict evaluator additionally refuses to read
a register no instruction has written.)
-/
namespace GV

/-- C16, SSA half. -/
theorem C16_ssa (c : Circuit) (ins : List (List Bool))
    (hv : c.validate = .ok ()) (hs : Circuit.shapeOk c.inputGates ins = true) :
    ∃ o, c.eval? ins = some o ∧ o.length = c.outputGates.length := by
  obtain ⟨_, out, _, _, _, hl, he⟩ := Circuit.eval?_of_validate hv hs
  exact ⟨out, he, hl⟩

/-- C16, register half (strict evaluator: no undefined register is ever read). -/
theorem C16_reg (c : Reg.RCircuit) (ins : List (List Bool))
    (hv : c.validate = .ok ()) (hs : Circuit.shapeOk c.inputRegs ins = true) :
    ∃ o, c.eval? ins = some o ∧ o.length = c.outputRegs.length := by
  obtain ⟨-, -, -, -, set, hset, hos⟩ := Reg.RCircuit.validate_eq_ok.mp hv
  obtain ⟨regsF, hF, hrel⟩ := Reg.RCircuit.validateInsts_strict c.insts hset
    (Reg.RCircuit.Rel.init c.maxRegCount) List.length_replicate hs
  obtain ⟨out, hout, hl⟩ := Reg.RCircuit.outputs_strict hrel c.outputRegs hos
  exact ⟨out, Reg.RCircuit.eval?_eq_some.mpr ⟨hs, regsF, hF, hout⟩, hl⟩

/-- The Rust evaluator (registers are plain `bool`s) returns what the strict one returns. -/
theorem C16_reg_raw (c : Reg.RCircuit) (ins : List (List Bool)) (o : List Bool)
    (h : c.eval? ins = some o) : c.evalRaw? ins = some o := by
  obtain ⟨hs, sregs, hsr, hout⟩ := Reg.RCircuit.eval?_eq_some.mp h
  obtain ⟨regsF, hF, hrel⟩ := Reg.RCircuit.strictInsts_raw c.insts
    (Reg.RCircuit.RawRel.init c.maxRegCount) hsr
  exact Reg.RCircuit.evalRaw?_eq_some.mpr ⟨hs, regsF, hF, mapM_eq_some_imp hrel.read hout⟩

/-- C16 for the Rust register evaluator: validated ⇒ no panic, one bit per output. -/
theorem C16_reg_impl (c : Reg.RCircuit) (ins : List (List Bool))
    (hv : c.validate = .ok ()) (hs : Circuit.shapeOk c.inputRegs ins = true) :
    ∃ o, c.evalRaw? ins = some o ∧ o.length = c.outputRegs.length := by
  obtain ⟨o, ho, hl⟩ := C16_reg c ins hv hs
  exact ⟨o, C16_reg_raw c ins o ho, hl⟩

/-! ### non-vacuity: concrete circuits satisfy the hypotheses -/

example : (⟨[1, 2], [.xor 0 1, .and 0 2, .xor 3 4, .not 5], [5, 6, 0]⟩ : Circuit).validate = .ok () := by
  rfl

example : Circuit.shapeOk [1, 2] [[true], [false, true]] = true := by decide

example :
    (⟨[1, 2], [⟨0, .input 0 0⟩, ⟨1, .input 1 0⟩, ⟨2, .input 1 1⟩, ⟨1, .xor 0 1⟩, ⟨0, .and 0 2⟩],
      3, [1, 0], 1⟩ : Reg.RCircuit).validate = .ok () := by rfl

/-- and validation is not trivially permissive: a forward reference is refused -/
example : (⟨[1], [.xor 0 1], [1]⟩ : Circuit).validate = .error (.invalidGate 1) := by rfl

/-- a register circuit whose output register exists but is never written is refused -/
example : (⟨[1], [⟨0, .input 0 0⟩], 2, [1], 0⟩ : Reg.RCircuit).validate = .error (.invalidOutput 1) := by
  rfl

/-- an `Input` instruction naming a party that does not exist is refused -/
example : (⟨[1], [⟨0, .input 7 0⟩], 1, [0], 0⟩ : Reg.RCircuit).validate = .error (.invalidInput 0) := by
  rfl

/-- `max_reg_count = 0` with an output is refused -/
example : (⟨[1], [], 0, [0], 0⟩ : Reg.RCircuit).validate = .error (.invalidOutput 0) := by rfl

end GV
