import GarbleVerif.Proofs.Encoding
import GarbleVerif.Model.SrcSem
import GarbleVerif.Proofs.BitWidth
import GarbleVerif.Proofs.BitStatic
/-!
# C05 — accepted programs compile to valid circuits whose I/O shape matches their types

The part of C05 that is a statement about the I/O contract itself, for every type and value:
an argument of type `t` occupies exactly `t.size` input wires and a result of type `t` exactly
`t.size` output wires after the 161 panic wires, and those wires decode to the value
(`C05_io_width`, `C05_io_decodes`, `C05_output_shape`). The correspondence run checks on every
generated program that the compiled circuit has exactly this shape (`input_gates`, number of
output wires), passes `Circuit::validate`, and returns `Val.encode` of the value the source
semantics compute.

At the level of the compiler model (Model/BitSem.lean — every expression and statement form except for-join
loops): `C05_output_width` — the compiled body of a function has exactly `size(T)` output wires for its result type
`T`, for ANY wires on the inputs (valid encodings or not, panicking runs included), and `C01_core` says they are the
encoding of the value when the run does not panic. What is not modelled and therefore explored: that the type
checker accepts exactly the well-typed programs, that `compile()` itself never panics on an accepted program, and
`Circuit::validate` of the gate-level result (the value-level model has no gates; C16 / C04 cover gate lists).
-/
namespace GV

theorem C05_io_width (v : Val) (t : Ty) (h : v.hasType t = true) : (v.encode t).length = t.size :=
  Val.encode_length v t h

theorem C05_io_decodes (v : Val) (t : Ty) (h : v.hasType t = true) : t.decode (v.encode t) = some v :=
  Val.decode_encode v t h

/-- the output of a run that returns `v : t`: 161 panic wires followed by exactly `t.size` wires -/
theorem C05_output_shape (panic : List Bool) (v : Val) (t : Ty) (hp : panic.length = 161)
    (h : v.hasType t = true) :
    (panic ++ v.encode t).length = 161 + t.size ∧ t.decode ((panic ++ v.encode t).drop 161) = some v := by
  refine ⟨by simp [hp, Val.encode_length v t h], ?_⟩
  rw [← hp, List.drop_left]
  exact Val.decode_encode v t h


namespace Bit
open Src

/-- **C05, output shape at the level of the compiler model**: for every program of the fragment of Model/BitSem.lean
(every expression and statement form except for-join loops), every inlining depth and ANY wires on the inputs — as
many per variable as its type has bits, whether or not they encode a value, whether or not the execution panics —
the compiled body has exactly `size(T)` output wires for its result type `T`, and every variable still has as many
wires as its type has bits -/
theorem C05_output_width (prog : Prog) (depth : Nat) (benv benv' : BEnv) (body : StmtList) (t : VTy) (bits : List Bool)
    (p : P) (hw : WFB benv) (h : bitStmts ⟨callAt prog depth, prog.enum?⟩ benv body = some (t, bits, p, benv')) :
    bits.length = t.toTy.size :=
  (width_program prog depth benv benv' body t bits p hw h).1

/-- **a typed function has the shape of its signature**: if the typing judgement of the compiler model accepts a
function (`Bit.fnTyped`: the model run once, on all-zero wires), then for ANY wires on its parameters — as many per
parameter as the parameter type has bits — the compiled call is inside the model and has exactly `size(ret)` output wires
(`typed_call`: the verdict of the model does not depend on the wires, Proofs/BitStatic.lean) -/
theorem C05_typed_output_width (prog : Prog) (f : String) (d : FnDef) (hfn : prog.fn? f = some d)
    (hty : fnTyped prog d = true) (args : List (VTy × List Bool))
    (htys : args.map (·.1) = d.params.map (fun xt => VTy.ofTy xt.2)) (hw : ArgsWF args) :
    ∃ bs p, callAt prog (prog.fns.length + 2) f args = some (VTy.ofTy d.ret, bs, p) ∧ bs.length = d.ret.size := by
  obtain ⟨bs, p, h⟩ := typed_call prog f d hfn hty args htys hw
  have := callAt_wf prog (prog.fns.length + 2) f args _ _ _ h hw
  exact ⟨bs, p, h, by rw [this, VTy.toTy_ofTy]⟩

/-- non-vacuity: a `u8` parameter bound to eight wires -/
example : WFB [("x", .s (.int .u8), List.replicate 8 true)] := WFB.cons rfl WFB.nil

end Bit
end GV
