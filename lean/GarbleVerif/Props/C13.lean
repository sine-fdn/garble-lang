import GarbleVerif.Model.SrcSem
/-!
# C13 — for-join loops: what the source semantics prescribe

Theorems about `Src.joinPairs`, the list of pairs a `for .. in join_iter(a, b)` loop visits in
the source semantics the compiled circuits are compared with:

* `C13_visits`: the loop visits, in the order of `a`, exactly those elements `x` of `a` for which
  `b` has an element with an equal key, each once, paired with that element of `b`;
* `C13_visits_in_order`, `C13_ascending`: the visited elements are a sub-sequence of `a`: for sorted input the body
  runs in ascending key order;
* `C13_partner_sound`, `C13_partner_complete`: the partner has an equal key and is an element of
  `b`; if no partner is found no element of `b` has that key;
* `C13_partner_unique`: when the keys of `b` are pairwise different (strictly sorted input) the
  partner is the only element of `b` with that key — so the pairs are exactly the equal-key pairs;
* `C13_loop_is_body_per_pair`: the loop statement is the ordinary loop over these pairs, so the
  body's effects and panics happen for these pairs only, in this order.

The bitonic merge network of `compile.rs` and the `join` built-in are not modelled; they are
compared with this specification (and with the property's conditions on `join`'s output) on
generated programs and sorted inputs on every run.
-/
namespace GV
namespace Src

def pairOf (x y : Val) : Val := .tuple (.cons x (.cons y .nil))

theorem C13_visits : ∀ (xs ys : ValList),
    (joinPairs xs ys).toList =
      xs.toList.filterMap (fun x => (findByKey (joinKey x) ys).map (pairOf x)) := by
  intro xs ys
  fun_induction joinPairs xs ys with
  | case1 => rfl
  | case2 x r ys y hy ih =>
    rw [ValList.toList, ValList.toList, List.filterMap_cons, hy, ih]
    rfl
  | case3 x r ys hn ih =>
    rw [ValList.toList, List.filterMap_cons, hn]
    exact ih

/-- **in ascending key order**: the elements of `a` the loop visits are a sub-sequence of `a` — the loop never
reorders or repeats them, so for an array sorted by key the body runs in ascending key order.
`joinKey` of a visited pair `(x, y)` is its first field `x`: the list is the visited elements of `a`; `R` in
`C13_ascending` is a relation on elements (e.g. comparing their keys). -/
theorem C13_visits_in_order : ∀ (xs ys : ValList),
    ((joinPairs xs ys).toList.map joinKey).Sublist xs.toList := by
  intro xs ys
  fun_induction joinPairs xs ys with
  | case1 => exact .slnil
  | case2 x _ _ _ _ ih => exact ih.cons_cons x
  | case3 x _ _ _ ih => exact ih.cons x

/-- so any order the keys of `a` are in (strictly ascending, for sorted input) is the order of the visits -/
theorem C13_ascending (R : Val → Val → Prop) (xs ys : ValList) (h : xs.toList.Pairwise R) :
    ((joinPairs xs ys).toList.map joinKey).Pairwise R :=
  h.sublist (C13_visits_in_order xs ys)

theorem C13_partner_sound : ∀ (k : Val) (ys : ValList) (y : Val), findByKey k ys = some y →
    y ∈ ys.toList ∧ Val.beq (joinKey y) k = true := by
  intro k ys y h
  fun_induction findByKey k ys with
  | case1 => cases h
  | case2 _ _ hv =>
    cases h
    exact ⟨List.mem_cons_self .., hv⟩
  | case3 _ _ _ ih => exact ⟨List.mem_cons_of_mem _ (ih h).1, (ih h).2⟩

theorem C13_partner_complete : ∀ (k : Val) (ys : ValList), findByKey k ys = none →
    ∀ y, y ∈ ys.toList → Val.beq (joinKey y) k = false := by
  intro k ys h y hy
  fun_induction findByKey k ys with
  | case1 => cases hy
  | case2 => cases h
  | case3 _ _ hv ih =>
    rcases List.mem_cons.mp hy with rfl | hy
    · exact Bool.eq_false_iff.mpr hv
    · exact ih h hy

/-- with pairwise different keys in `b` the partner is the only element of `b` with that key -/
theorem C13_partner_unique : ∀ (k : Val) (ys : ValList) (y y' : Val),
    ys.toList.Pairwise (fun a b => ¬ (Val.beq (joinKey a) k = true ∧ Val.beq (joinKey b) k = true)) →
    findByKey k ys = some y → y' ∈ ys.toList → Val.beq (joinKey y') k = true → y' = y := by
  intro k ys y y' hp h hy' hk'
  fun_induction findByKey k ys with
  | case1 => cases h
  | case2 _ _ hv =>
    cases h
    rcases List.mem_cons.mp hy' with rfl | hy'
    · rfl
    · exact absurd ⟨hv, hk'⟩ ((List.pairwise_cons.mp hp).1 y' hy')
  | case3 _ _ hv ih =>
    rcases List.mem_cons.mp hy' with rfl | hy'
    · exact absurd hk' hv
    · exact ih (List.pairwise_cons.mp hp).2 h hy'

/-- the for-join statement is the loop over the joined pairs -/
theorem C13_loop_is_body_per_pair (fuel : Nat) (prog : Prog) (env env1 env2 : Env) (p : Pat) (a b : Expr)
    (body : StmtList) (xs ys : ValList)
    (ha : evalExpr fuel prog env a = .ok (.array xs, env1))
    (hb : evalExpr fuel prog env1 b = .ok (.array ys, env2)) :
    evalStmt (fuel + 1) prog env (.forJoin p a b body) =
      (match evalLoop fuel prog env2 p (joinPairs xs ys) body with
       | .error e => .error e
       | .ok env3 => .ok (unit, env3)) := by
  dsimp only [evalStmt]
  simp only [ha, hb]
  cases evalLoop fuel prog env2 p (joinPairs xs ys) body <;> rfl

/-- non-vacuity: keys 1, 2, 5 joined with keys 2, 5 -/
example : (joinPairs (.cons (.int 1) (.cons (.int 2) (.cons (.int 5) .nil))) (.cons (.int 2) (.cons (.int 5) .nil))).toList
    = [pairOf (.int 2) (.int 2), pairOf (.int 5) (.int 5)] := by rfl

end Src
end GV
