import GarbleVerif.Proofs.PanicRec
import GarbleVerif.Model.PanicReqs
import GarbleVerif.Proofs.BitMain
/-!
# C02 — panic iff the source semantics fail; first failure wins; untaken code is silent

Builder level. The circuit carries a 161-wire panic record. `absOf b inp p` decodes it on an input
to the *abstract panic state* `Option info` (`none` = no panic; `some info` = the 160 bits naming
reason and location of the failing operation). The theorems say that the two operations
`compile.rs` performs on the record refine the obvious abstract operations — for **every** builder
state, every record satisfying the invariant `PInv` (in particular every record reachable by
these operations from `PanicResult::ok()`), every condition wire and every input:

* `push_panic_if` = `raiseIf`: a panic is raised iff the condition holds and none was raised
  before; an earlier panic is never dropped or overwritten (first failure wins);
* `mux_panic` = `if s then t else f`: after a conditional the record is that of the path taken, so
  operations on the path not taken contribute nothing.

Program level (`C02_program`, for the fragment of Model/BitSem.lean — every expression and statement form of the
language except for-join loops, constants and multiplication by a negative literal): the panic state the compiled
code ends with is `none` exactly when the source execution returns a value, and `some k` exactly when the source
execution fails with `k` — the reason of the FIRST failing operation in evaluation order, because that is what the
source semantics report; operations in branches not taken, arms not selected, short-circuited operands and loop
iterations after a failure are compiled (they are in `bitStmts`) but contribute nothing. Source locations are not
part of this model; reasons are.
-/
namespace GV
open Builder

theorem C02_push_panic_if {b : Builder} (hb : WF b) {p : PanicSt} (hp : PInv b p) {cond : Nat}
    (hc : cond < b.counter) (reason l0 c0 l1 c1 : Nat) :
    WF (pushPanicIf b p cond reason l0 c0 l1 c1).1 ∧ Ext b (pushPanicIf b p cond reason l0 c0 l1 c1).1 ∧
    PInv (pushPanicIf b p cond reason l0 c0 l1 c1).1 (pushPanicIf b p cond reason l0 c0 l1 c1).2 ∧
    ∀ inp, inp.length + 2 = b.shift →
      absOf (pushPanicIf b p cond reason l0 c0 l1 c1).1 inp (pushPanicIf b p cond reason l0 c0 l1 c1).2 =
        raiseIf (b.sem inp cond) ((siteInfo reason l0 c0 l1 c1).map (b.sem inp)) (absOf b inp p) :=
  pushPanicIf_refines hb hp hc reason l0 c0 l1 c1

theorem C02_mux_panic {b : Builder} (hb : WF b) {s : Nat} (hs : s < b.counter) {t f : PanicSt}
    (ht : PInv b t) (hf : PInv b f) :
    WF (muxPanic b s t f).1 ∧ Ext b (muxPanic b s t f).1 ∧ PInv (muxPanic b s t f).1 (muxPanic b s t f).2 ∧
    ∀ inp, inp.length + 2 = b.shift →
      absOf (muxPanic b s t f).1 inp (muxPanic b s t f).2 =
        if b.sem inp s then absOf b inp t else absOf b inp f :=
  muxPanic_refines hb hs ht hf

/-- first failure wins / a panic once raised is never dropped or overwritten -/
theorem C02_first_wins (c : Bool) (info first : List Bool) : raiseIf c info (some first) = some first := rfl

/-- no panic before and the condition is false: still no panic -/
theorem C02_silent (info : List Bool) : raiseIf false info none = none := rfl

/-- no panic before and the condition holds: this site is reported -/
theorem C02_raises (info : List Bool) : raiseIf true info none = some info := rfl

/-- a saved record stays valid while gates are added (`replace_panic_with` of an older clone) -/
theorem C02_restore {b b' : Builder} {p : PanicSt} (hp : PInv b p) (e : Ext b b') (inp : List Bool)
    (hi : inp.length + 2 = b.shift) : PInv b' p ∧ absOf b' inp p = absOf b inp p :=
  ⟨hp.mono e, absOf_ext hp e inp hi⟩

/-- the initial record `PanicResult::ok()` satisfies the invariant and decodes to "no panic" -/
theorem C02_initial {b : Builder} (hb : WF b) : PInv b PanicSt.ok ∧ ∀ inp, absOf b inp PanicSt.ok = none := by
  refine ⟨⟨?_, by simp [PanicSt.ok, usizeWires_length], by simp [PanicSt.ok], by simp [PanicSt.ok]⟩, ?_⟩
  · intro w hw
    simp only [PanicSt.ok, List.mem_cons, List.mem_append] at hw
    refine Nat.lt_of_le_of_lt ?_ hb.two_le_counter
    rcases hw with rfl | ((((h | h) | h) | h) | h)
    · exact Nat.zero_le 1
    all_goals exact usizeWires_le_one _ w h
  · intro inp
    simp [absOf, PanicSt.ok, PanicSt.flag, sem_zero]

/-! sanity: a site whose condition is false leaves the state alone, the next site that fails is reported -/
example : raiseIf true [true] (raiseIf false [false] none) = some [true] := rfl


namespace Bit
open Src

/-- **C02 at program level**: with enough fuel for the source execution to finish, the panic state of the compiled
code is empty iff the execution returns a value, and names reason `k` iff the execution fails with `k` -/
theorem C02_program (prog : Prog) (depth fuel : Nat) (env : Src.Env) (benv benv' : BEnv) (body : StmtList)
    (t : VTy) (bits : List Bool) (p : P)
    (henv : EnvRel env benv) (hbits : bitStmts ⟨callAt prog depth, prog.enum?⟩ benv body = some (t, bits, p, benv'))
    (hfuel : evalStmts fuel prog env body ≠ .error .fuel) :
    (p = none ↔ ∃ v env', evalStmts fuel prog env body = .ok (v, env')) ∧
    (∀ k, p = some k ↔ evalStmts fuel prog env body = .error (.panic k)) := by
  have h := stmts_refine prog depth fuel henv hbits
  cases hev : evalStmts fuel prog env body with
  | ok res =>
    obtain ⟨rfl, _⟩ := h.ok hev
    exact ⟨⟨fun _ => ⟨_, _, rfl⟩, fun _ => rfl⟩, fun k => ⟨nofun, nofun⟩⟩
  | error er =>
    cases er with
    | panic k0 =>
      obtain rfl := h.panic hev
      refine ⟨⟨nofun, fun ⟨_, _, hh⟩ => nomatch hh⟩, fun k => ⟨fun hk => ?_, fun hk => ?_⟩⟩
      · cases hk; rfl
      · cases hk; rfl
    | stuck w => exact absurd hev h.not_stuck
    | fuel => exact absurd hev hfuel

end Bit
end GV
