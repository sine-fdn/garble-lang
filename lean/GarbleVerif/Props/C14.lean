import GarbleVerif.Proofs.SrcFrame
import GarbleVerif.Proofs.BitMain
/-!
# C14 — no shared mutable state

Theorems about the source semantics `Src.evalExpr / evalStmt` (the specification the compiled
circuits are compared with on every run):

* `C14_scope`: evaluating any expression — blocks, `if`, `match`, calls, loops inside blocks —
  leaves the list of bound names exactly as it was: every binding made inside ends with its
  scope, a shadowing binding included; statements only add bindings in front;
* `C14_assign_frame`: an assignment `x… = e` changes no variable other than `x`;
* `C14_element_frame`: `a[i] = v` changes no other element of `a`;
* `C14_call_by_value`: after a call the caller's environment is the one the argument evaluation
  left; nothing the callee does to its parameters is visible;
* `C14_if_taken_branch`, `C14_loop_order`: an `if` runs exactly the branch taken, from the
  state the condition left; a loop runs its body once per element, in order, each iteration
  starting from the state the previous one left.

The merging of variables by the compiler (`mux_envs`) is modelled for the core fragment
(Model/BitSem.lean: scalars, tuples, structs, enums, arrays, `if`, `match`, `&&` / `||`, blocks, `let` with patterns,
`let mut`, assignment to a variable and through `.i` / `.f` / `[i]` accessors, `for` loops, calls):

* `C14_compiled_scope`, `C14_compiled_stmts_scope`: the compiled code keeps the scope stack — after
  an expression exactly the same variables (names, types, order) are in scope, statements only add
  their own bindings in front; so the environments merged after an `if` or the arms of a `match` always line up;
* `C14_merge`: the variable-by-variable merge of two such environments is the environment of the
  branch taken;
* `C14_compiled_element_frame`: an array write leaves the wires of all other elements untouched;
* `C14_compiled_state`: after any statements of the fragment — assignments inside branches, inside match arms, inside
  the right operand of `&&` / `||`, inside nested blocks with shadowing, inside unrolled loop bodies, to single
  elements of arrays and components of tuples — the wires of every
  variable in scope carry exactly the value the source semantics give it.

Outside that fragment (for-join loops, constants) the merging is tied to these
semantics by the correspondence run (programs that return every visible variable).
-/
namespace GV
namespace Src

theorem Env.get?_set_ne (env : Env) (x y : String) (v : Val) (h : y ≠ x) :
    (env.set x v).get? y = env.get? y := by
  fun_induction Env.set env x v with
  | case1 => rfl
  | case2 n _ _ _ _ hn =>
    -- the binding replaced is that of `x`, not of `y`
    have hne : ¬ (n == y) = true := fun hy => h ((beq_iff_eq.mp hy).symm.trans (beq_iff_eq.mp hn))
    rw [Env.get?, Env.get?, if_neg hne, if_neg hne]
  | case3 _ _ _ _ _ _ ih => rw [Env.get?, Env.get?, ih h]

theorem Env.get?_set_eq (env : Env) (x : String) (v old : Val) (h : env.get? x = some old) :
    (env.set x v).get? x = some v := by
  fun_induction Env.set env x v with
  | case1 => cases h
  | case2 _ _ _ _ _ hn => rw [Env.get?, if_pos hn]
  | case3 _ _ _ _ _ hn ih =>
    rw [Env.get?, if_neg hn] at h ⊢
    exact ih h

/-- **scope**: whatever an expression does, afterwards exactly the same names are bound, in the
same order (only values of `mut` variables may have changed); a statement list only adds the
bindings of its own `let`s in front of them -/
theorem C14_scope (prog : Prog) (fuel : Nat) :
    (∀ env e v env', evalExpr fuel prog env e = .ok (v, env') → names env' = names env) ∧
    (∀ env ss v env', evalStmts fuel prog env ss = .ok (v, env') → ∃ pre, names env' = pre ++ names env) :=
  ⟨(frame prog fuel).expr, (frame prog fuel).stmts⟩

/-- **assignment**: `x.path = e` leaves every other variable as the evaluation of `e` and of the
index expressions left it -/
theorem C14_assign_frame (prog : Prog) (fuel : Nat) (env env' : Env) (x : String) (path : Path) (e : Expr)
    (u : Val) (h : evalStmt (fuel + 1) prog env (.assign x path e) = .ok (u, env')) :
    ∃ v env1 old steps env2, evalExpr fuel prog env e = .ok (v, env1) ∧ env1.get? x = some old ∧
      evalPath fuel prog env1 old path = .ok (steps, env2) ∧
      ∀ y, y ≠ x → env'.get? y = env2.get? y := by
  dsimp only [evalStmt] at h
  split at h
  · cases h
  · rename_i v env1 he
    split at h
    · cases h
    · rename_i old hold
      split at h
      · cases h
      · rename_i steps env2 hp
        split at h
        · cases h
        · cases h
          exact ⟨v, env1, old, steps, env2, he, hold, hp, fun y hy => Env.get?_set_ne env2 x y _ hy⟩

theorem ValList'.get?_set_ne : ∀ (vs : ValList) (i j : Nat) (w : Val), j ≠ i →
    ValList'.get? (ValList'.set vs i w) j = ValList'.get? vs j := by
  intro vs i j w h
  fun_induction ValList'.set vs i w generalizing j with
  | case1 => rfl
  | case2 =>
    cases j with
    | zero => exact absurd rfl h
    | succ => rfl
  | case3 _ _ _ _ ih =>
    cases j with
    | zero => rfl
    | succ j => exact ih j fun e => h (congrArg (· + 1) e)

/-- **elements**: assigning to element `i` of an array leaves every other element as it was -/
theorem C14_element_frame (vs : ValList) (i : Nat) (new : Val) (r : Val)
    (h : updateAt (.array vs) [.index i] new = .ok r) :
    ∃ ws, r = .array ws ∧ ∀ j, j ≠ i → ValList'.get? ws j = ValList'.get? vs j := by
  simp only [updateAt] at h
  split at h
  · simp only [Except.ok.injEq] at h
    subst h
    exact ⟨_, rfl, fun j hj => ValList'.get?_set_ne vs i j new hj⟩
  · simp at h

/-- **by value**: a call leaves the caller with the environment that evaluating the arguments
produced; the callee's final environment is dropped -/
theorem C14_call_by_value (prog : Prog) (fuel : Nat) (env env' : Env) (f : String) (args : ExprList) (r : Val)
    (h : evalExpr (fuel + 1) prog env (.call f args) = .ok (r, env')) :
    ∃ vs, evalList fuel prog env args = .ok (vs, env') := by
  rw [Bit.evalExpr_call] at h
  split at h
  · cases h
  · split at h <;> cases h
    exact ⟨_, ‹_›⟩

/-- **control flow**: an `if` is its condition followed by the branch taken -/
theorem C14_if_taken_branch (prog : Prog) (fuel : Nat) (env env1 : Env) (c t f : Expr) (b : Bool)
    (hc : evalExpr fuel prog env c = .ok (.bool b, env1)) :
    evalExpr (fuel + 1) prog env (.ite c t f) = evalExpr fuel prog env1 (if b then t else f) := by
  dsimp only [evalExpr]
  rw [hc]
  cases b <;> rfl

/-- **loops**: one iteration per element, in order, each from the state the previous one left (with
the iteration's own bindings removed) -/
theorem C14_loop_order (prog : Prog) (fuel : Nat) (env env1 : Env) (p : Pat) (v : Val) (rest : ValList)
    (body : StmtList) (binds : Env) (u : Val)
    (hm : matchPat p v = some binds)
    (hb : evalStmts fuel prog (binds ++ env) body = .ok (u, env1)) :
    evalLoop (fuel + 1) prog env p (.cons v rest) body = evalLoop fuel prog (restore env env1) p rest body := by
  dsimp only [evalLoop]
  simp only [hm, hb]

/-- non-vacuity: a shadowing `let` inside a block; afterwards the outer `x` is visible again -/
example : evalExpr 10 ⟨[], [], [], []⟩ [("x", .int 1)]
    (.block (.cons (.let_ (.ident "x") (.bool true)) (.cons (.expr (.var "x")) .nil))) =
    .ok (.bool true, [("x", .int 1)]) := by rfl

end Src
end GV

namespace GV
namespace Bit
open Src

/-- **the compiled code keeps the scope stack** (expressions) -/
theorem C14_compiled_scope (call : Ctx) (e : Expr) (benv benv' : BEnv) (t : VTy) (bs : List Bool) (p : P)
    (h : bitExpr call benv e = some (t, bs, p, benv')) : shape benv' = shape benv :=
  shapeE call e benv t bs p benv' h

/-- statements only add their own bindings in front of the variables they found -/
theorem C14_compiled_stmts_scope (call : Ctx) (ss : StmtList) (benv benv' : BEnv) (t : VTy) (bs : List Bool) (p : P)
    (h : bitStmts call benv ss = some (t, bs, p, benv')) : ∃ pre, shape benv' = pre ++ shape benv :=
  shapeSS call ss benv t bs p benv' h

/-- **`mux_envs`**: merging, variable by variable, two environments with the same variables gives the
environment of the branch taken -/
theorem C14_merge (c : Bool) (a b : BEnv) (h : shape a = shape b) : muxEnv c a b = if c then a else b :=
  muxEnv_eq c a b h

/-- **no variable is lost or mixed up by control flow**: whatever the statements do, afterwards the wires
of every variable in scope encode the value the source semantics give that variable -/
theorem C14_compiled_state (prog : Prog) (depth fuel : Nat) (env env' : Src.Env) (benv benv' : BEnv) (body : StmtList)
    (t : VTy) (bits : List Bool) (p : P) (v : Val)
    (henv : EnvRel env benv) (hbits : bitStmts ⟨callAt prog depth, prog.enum?⟩ benv body = some (t, bits, p, benv'))
    (hsrc : evalStmts fuel prog env body = .ok (v, env')) : EnvRel env' benv' :=
  ((stmts_refine prog depth fuel henv hbits).ok hsrc).2.2

/-- **a call cannot touch the caller's variables**: the callee is compiled with its parameters only, and the
caller goes on with the variables its argument expressions left -/
theorem C14_compiled_call_frame (call : Ctx) (fn : String) (args : ExprList) (benv benv' : BEnv) (t : VTy)
    (bs : List Bool) (p : P) (h : bitExpr call benv (.call fn args) = some (t, bs, p, benv')) :
    ∃ vs pargs, bitList call benv args = some (vs, pargs, benv') := by
  obtain ⟨vs, pargs, _, hl, _⟩ := bitExpr_call h
  exact ⟨vs, pargs, hl⟩

/-- **`a[i] = v` touches one element**: the mux chains of an array write (`Arith.writeAll`, one chain per element and
wire) leave the wires of every element other than the one the index spells exactly as they were — and all of them when
the index is out of bounds -/
theorem C14_compiled_element_frame (sz n : Nat) (idx sub cur : List Bool) (hs : sub.length = sz)
    (hcur : cur.length = n * sz) (hn : n ≤ 2 ^ idx.length) :
    (Arith.writeAll idx sub 0 (chunks sz n cur)).flatten =
      if Arith.toNat idx < n then
        cur.take (Arith.toNat idx * sz) ++ sub ++ cur.drop (Arith.toNat idx * sz + sz)
      else cur :=
  writeAll_chunks sz n idx sub cur hs hcur hn

/-- non-vacuity: `if c { x = 1u8; y = x; } else { y = 2u8; }` — both variables are merged -/
example : bitStmts ⟨callAt ⟨[], [], [], []⟩ 0, fun _ => none⟩ [("c", .s .bool, [false]), ("x", .s (.int .u8), enc .u8 7), ("y", .s (.int .u8), enc .u8 0)]
    (.cons (.expr (.ite (.var "c")
      (.block (.cons (.assign "x" .nil (.int 1 .u8)) (.cons (.assign "y" .nil (.var "x")) .nil)))
      (.block (.cons (.assign "y" .nil (.int 2 .u8)) .nil)))) .nil) =
    some (.unit, [], none, [("c", .s .bool, [false]), ("x", .s (.int .u8), enc .u8 7), ("y", .s (.int .u8), enc .u8 2)]) := by
  rfl

end Bit
end GV
