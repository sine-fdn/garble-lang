import GarbleVerif.Proofs.Encoding
import GarbleVerif.Model.Literal
import GarbleVerif.Proofs.LiteralSafe
import GarbleVerif.Proofs.DecoderRoundtrip
/-!
# C09 — literal encoding round-trips and matches the documented bit layout

`Val.encode` / `Ty.decode` / `Val.hasType` are the *specification* of the layout (big-endian
two's complement integers; array elements, tuple fields and struct fields concatenated; enums
as a tag followed by the zero-padded payload). For **every** type (any nesting) and every
well-typed value the theorems below hold; `C09_accept_safe` ties the transliteration of `literal.rs`
(`Lit.isOfType`, `Lit.asBits`) to this specification, `C09_decoder_roundtrip` the transliteration of
`from_unwrapped_bits` (`Ty.fromBits`).
-/
namespace GV

/-- encoding yields exactly `size(T)` bits -/
theorem C09_size (v : Val) (t : Ty) (h : v.hasType t = true) : (v.encode t).length = t.size :=
  Val.encode_length v t h

/-- decoding those bits yields the value -/
theorem C09_roundtrip (v : Val) (t : Ty) (h : v.hasType t = true) : t.decode (v.encode t) = some v :=
  Val.decode_encode v t h

/-- the layout, clause by clause (these hold by definition; stated so that a change of the
specification shows up here) -/
theorem C09_layout_int (i : Int) (k : IntTy) : (Val.int i).encode (.int k) = intToBits i k.bits := rfl
theorem C09_layout_tuple (v : Val) (r : ValList) (t : Ty) (ts : TyList) :
    (Val.tuple (.cons v r)).encode (.tuple (.cons t ts)) = v.encode t ++ (Val.tuple r).encode (.tuple ts) := rfl
theorem C09_layout_array (v : Val) (r : ValList) (t : Ty) (n m : Nat) :
    (Val.array (.cons v r)).encode (.array t n) = v.encode t ++ (Val.array r).encode (.array t m) := rfl
theorem C09_layout_struct (f : String) (v : Val) (r : FieldVals) (t : Ty) (ts : Fields) (s : String) :
    (Val.struct s (.cons f v r)).encode (.struct s (.cons f t ts)) =
      v.encode t ++ (Val.struct s r).encode (.struct s ts) := rfl

/-- integers are big-endian two's complement: the numeric value of the bits is the value modulo `2^w` -/
theorem C09_int_bits (i : Int) (w : Nat) : (bitsToNat (intToBits i w) : Int) = i % (2 : Int) ^ w :=
  bitsToNat_intToBits i w

/-! ### the transliterated `literal.rs` against this specification -/

/-- **a literal the API accepts is safe**: if `is_of_type` accepts a literal for a type (any nesting; `ArrayRepeat`,
`Range`, struct fields in any order, unit and tuple variants), the literal denotes a well-typed value of that
type and `as_bits` emits exactly that value's encoding. `DefsOK`: the struct / enum definitions used for the
encoding are those of the type, struct fields have distinct names, unit variants have no fields. -/
theorem C09_accept_safe (d : Defs) (l : Lit) (t : Ty) (hd : t.DefsOK d) (h : l.isOfType t = true) :
    ∃ v, l.denote t = some v ∧ v.hasType t = true ∧ l.asBits d = v.encode t :=
  Lit.accept d l t hd h

/-- **the decoder undoes the encoding**: `Literal::from_unwrapped_bits` (`Ty.fromBits`) accepts the encoding of every
well-typed value and returns a literal that denotes exactly that value — for every type whose struct field names are
distinct and whose unit variants have no fields (`DefsOK`) -/
theorem C09_decoder_roundtrip (d : Defs) (v : Val) (t : Ty) (hd : t.DefsOK d) (h : v.hasType t = true) :
    ∃ l, t.fromBits (v.encode t) = some l ∧ l.denote t = some v :=
  fromBits_encode d v t hd h

/-- an accepted literal is encoded to exactly `size(T)` bits, and they decode to the value it denotes -/
theorem C09_accept_size (d : Defs) (l : Lit) (t : Ty) (hd : t.DefsOK d) (h : l.isOfType t = true) :
    (l.asBits d).length = t.size ∧ ∃ v, l.denote t = some v ∧ t.decode (l.asBits d) = some v := by
  obtain ⟨v, h1, h2, h3⟩ := Lit.accept d l t hd h
  exact ⟨by rw [h3]; exact Val.encode_length v t h2, v, h1, by rw [h3]; exact Val.decode_encode v t h2⟩

/-! ### non-vacuity -/

def demoTy : Ty :=
  .tuple (.cons (.int .i8) (.cons (.enum "E" (.cons "A" true .nil (.cons "B" false (.cons (.int .u16) .nil) .nil))) .nil))
def demoVal : Val := .tuple (.cons (.int (-3)) (.cons (.enum "E" "B" false (.cons (.int 515) .nil)) .nil))

example : demoVal.hasType demoTy = true := by decide +kernel
example : demoVal.encode demoTy =
    [true, true, true, true, true, true, false, true,  true,
     false, false, false, false, false, false, true, false, false, false, false, false, false, false, true, true] := by
  decide +kernel

/-- a struct literal with its fields in another order than the definition, accepted and encoded in definition order -/
def demoDefs : Defs := { structs := [("S", .cons "a" (.int .u8) (.cons "b" .bool .nil))], enums := [] }
def demoStructTy : Ty := .struct "S" (.cons "a" (.int .u8) (.cons "b" .bool .nil))
def demoStructLit : Lit := .struct "S" (.cons "b" .true (.cons "a" (.numU 5 .u8) .nil))

example : demoStructLit.isOfType demoStructTy = true := by decide +kernel
example : demoStructTy.DefsOK demoDefs := by
  simp [demoStructTy, demoDefs, Ty.DefsOK, Fields.DefsOK, Defs.struct?, Fields.names]
example : demoStructLit.asBits demoDefs = [false, false, false, false, false, true, false, true, true] := by
  simp [demoStructLit, demoDefs, Lit.asBits, Defs.struct?, LitFields.asBitsInOrder, LitFields.findBits, natToBits,
    IntTy.bits]

end GV
