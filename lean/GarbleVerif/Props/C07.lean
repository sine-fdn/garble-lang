import GarbleVerif.Proofs.ScanWF
/-!
# C07 — the front end is total

What is proved here, for every input text, about the model of `scan.rs` and of
`lib.rs: prettify_meta`:

* the scanner terminates: `scanLoop` and `blockLoop` are defined by well-founded recursion on
  the length of the remaining input, so Lean accepts them only with the proofs
  `scanOne_length` / `blockIter_length` that every iteration consumes input or stops
  (`C07_scan_progress`, `C07_block_comment_progress` restate them);
* it returns tokens or a **non-empty** list of errors (`C07_scan_result`);
* every token and error location has start ≤ end and lies on a line of the input
  (`C07_scan_locations`);
* rendering never indexes a line that does not exist, for every location whose end line is at
  most the number of newlines of the text (`C07_render_total`), in particular for every scanner
  location (`C07_scan_errors_render`).

`parse.rs`, `check.rs` and `compile.rs` are not modelled: for them C07 is explored by the
harness only; no theorem about them is stated here.
-/
namespace GV
namespace Scan

/-- every pass of the main loop strictly shortens the remaining input -/
theorem C07_scan_progress (c : Char) (rest : List Char) (s : St) :
    (scanOne c rest s).1.length < (c :: rest).length :=
  Nat.lt_succ_of_le (scanOne_length c rest s)

/-- every pass of the block-comment loop shortens the input, or the loop stops (end of input) -/
theorem C07_block_comment_progress (cs : List Char) (level line col : Nat) :
    cs ≠ [] → (blockIter cs level line col).1.length < cs.length :=
  (blockIter_length cs level line col).2

/-- the scanner returns tokens, or at least one error -/
theorem C07_scan_result (cs : List Char) :
    (∃ ts, scan cs = .ok ts) ∨ (∃ es, scan cs = .error es ∧ es ≠ []) := by
  unfold scan
  dsimp only
  split
  · exact Or.inl ⟨_, rfl⟩
  · rename_i h
    refine Or.inr ⟨_, rfl, ?_⟩
    intro hc
    apply h
    have := congrArg List.isEmpty hc
    simpa using this

/-- every location the scanner reports — of a token or of an error — has its start not after its
end, and ends on a line of the input (at most the number of newlines in the text) -/
theorem C07_scan_locations (cs : List Char) :
    (∀ ts, scan cs = .ok ts → ∀ tm, tm ∈ ts → Pos.le tm.2.start tm.2.stop ∧ tm.2.stop.line ≤ nl cs) ∧
    (∀ es, scan cs = .error es → ∀ em, em ∈ es → Pos.le em.2.start em.2.stop ∧ em.2.stop.line ≤ nl cs) := by
  have h := scanLoop_spec cs St.init inv_init
  have hline : (scanLoop cs St.init).line = nl cs := by rw [h.2]; simp [St.init]
  unfold scan
  dsimp only
  constructor
  · intro ts hts tm htm
    split at hts
    · simp only [Result.ok.injEq] at hts
      subst hts
      have := h.1.toks tm (by simpa using htm)
      rw [hline] at this
      exact this
    · simp at hts
  · intro es hes em hem
    split at hes
    · simp at hes
    · simp only [Result.error.injEq] at hes
      subst hes
      have := h.1.errs em (by simpa using hem)
      rw [hline] at this
      exact this

/-- `prettify_meta` never indexes a source line that does not exist, whatever the columns, for a
location that ends on a line of the text -/
theorem C07_render_total (prg : List Char) (m : Meta) (h : m.stop.line ≤ nl prg) :
    (prettifyMeta prg m).isSome := by
  unfold prettifyMeta
  split
  · rfl
  · exact renderLines_some _ _ _ (Nat.le_trans h (rustLines_length prg))

/-- every error the scanner reports can be rendered against the text it came from -/
theorem C07_scan_errors_render (cs : List Char) (es : List (ErrKind × Meta)) (h : scan cs = .error es) :
    ∀ em, em ∈ es → (prettifyMeta cs em.2).isSome :=
  fun em hem => C07_render_total cs em.2 ((C07_scan_locations cs).2 es h em hem).2

/-- the hypothesis of `C07_render_total` is needed: a location two lines past the end of a
one-line text makes the renderer index out of range (the Rust code panics on it as well) -/
example : prettifyMeta ['a'] ⟨⟨0, 0⟩, ⟨3, 0⟩⟩ = none := by decide

/-- non-vacuity: a text with a scan error on its second line -/
example : ∃ es, scan ['a', '\n', '#'] = .error es ∧ es ≠ [] := by
  refine ⟨[(.unexpectedCharacter, ⟨⟨1, 1⟩, ⟨1, 1⟩⟩)], ?_, by simp⟩
  simp [scan, scanLoop, scanOne, opTable, opList, isDigit, isAlnum, spanP, pushToken, pushError, advN,
    keyword, St.init]

end Scan
end GV
