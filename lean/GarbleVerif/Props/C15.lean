import GarbleVerif.Proofs.Reach
import GarbleVerif.Proofs.Requests
import GarbleVerif.Proofs.AndNormal
import GarbleVerif.Props.C04
/-!
# C15 — circuits contain no useless gates

First sentence, first clause ("apart from the two constant gates, every gate of a compiled
circuit contributes to at least one output"): proved for the model of `build` applied to
**any** well-formed builder state, hence for every request sequence.

Second clause ("no AND gate has a constant operand or the same wire twice"): proved likewise
(`C15_and_normal`) — the builder never pushes such a gate (`optimize_and`; the AND-factoring rule of
`push_xor` pairs an operand of an existing AND with a fresh wire), and the renumbering of `build` is
injective on referenced wires and sends only the constants to the constant gates.

Third clause ("with gate de-duplication on no two AND gates have the same pair of operands"):
`C15_and_unique` — every AND gate the builder pushes is entered into the cache under its operands, `push_and`
consults the cache in both orders before it pushes, and the AND pushed by the factoring rule has a fresh wire as
operand.

Not proved: the "consequently" sentence about data-movement programs (it needs the language-level model of the
compiler for aggregates); it is explored by the check on generated copy / re-pack programs.
-/
namespace GV
open Builder Req

/-- every gate of the built circuit, except the two constant gates, reaches an output -/
theorem C15_build_reachable (b : Builder) (ig pw outs : List Nat) (hb : WF b)
    (hshift : b.shift = ig.sum + 2) (hpos : 0 < ig.sum)
    (hroots : ∀ r, r ∈ outs ++ pw → r < b.counter) :
    ∀ i, 2 ≤ i → i < (b.build ig pw outs).gates.length →
      FReach (b.build ig pw outs) ((b.build ig pw outs).totalInputs + i) :=
  build_reach b ig pw outs ⟨hb, hshift, hpos, hroots⟩

/-- `C15_build_reachable` for the circuit compiled from any request sequence -/
theorem C15_requests_reachable (ig : List Nat) (cacheOn : Bool) (reqs : List Req) (outs : List Nat)
    (hpos : 0 < ig.sum) :
    ∀ i, 2 ≤ i → i < (Req.compile ig cacheOn reqs outs).gates.length →
      FReach (Req.compile ig cacheOn reqs outs) ((Req.compile ig cacheOn reqs outs).totalInputs + i) := by
  have hinv := run_inv ig cacheOn reqs
  rw [compile_eq]
  exact build_reach _ ig _ _ ⟨hinv.wf, hinv.shift, hpos, fun r hr =>
    (List.mem_append.mp hr).elim (filterMap_lt hinv.res.lt r) (okPanic_lt hinv.wf r)⟩

/-- no AND gate of a circuit has a constant operand or the same wire twice (wires `n`, `n+1`
are the constant gates) -/
def AndNormal (c : Circuit) : Prop :=
  ∀ x y, Gate.and x y ∈ c.gates → x ≠ y ∧ x ≠ c.totalInputs ∧ x ≠ c.totalInputs + 1 ∧
    y ≠ c.totalInputs ∧ y ≠ c.totalInputs + 1

/-- no two AND gates with the same unordered operand pair -/
def AndUnique (c : Circuit) : Prop :=
  ∀ (i j : Nat) x y x' y', c.gates[i]? = some (Gate.and x y) → c.gates[j]? = some (Gate.and x' y') →
    ((x = x' ∧ y = y') ∨ (x = y' ∧ y = x')) → i = j

/-- **no AND gate with a constant operand or the same wire twice**, for the circuit compiled from any request
sequence, with gate de-duplication on or off -/
theorem C15_and_normal (ig : List Nat) (cacheOn : Bool) (reqs : List Req) (outs : List Nat) :
    AndNormal (Req.compile ig cacheOn reqs outs) := by
  have hinv := run_inv ig cacheOn reqs
  rw [compile_eq]
  -- `totalInputs` of a built circuit is `ig.sum` by computation
  exact build_andNormal _ ig _ _ hinv.wf hinv.shift

/-- **with gate de-duplication on, no two AND gates over the same pair of operands** (in either order), for the
circuit compiled from any request sequence -/
theorem C15_and_unique (ig : List Nat) (reqs : List Req) (outs : List Nat) :
    AndUnique (Req.compile ig true reqs outs) := by
  rw [compile_eq]
  exact build_andUnique _ ig _ _ (run_inv ig true reqs).wf (run_cacheOn ig true reqs)

/-! non-vacuity: a builder state with one live and one dead gate; `build` keeps three gates
(two constants + the live one), so the quantifier of `C15_build_reachable` is inhabited -/
example :
    ((⟨false, 4, [.xor 2 3, .and 2 3], {}, {}⟩ : Builder).build [1, 1] [] [4]).gates =
      [.xor 0 0, .not 2, .xor 0 1] := by
  decide +kernel

end GV
