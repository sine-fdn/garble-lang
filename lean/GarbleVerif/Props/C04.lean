import GarbleVerif.Proofs.Requests
import GarbleVerif.Proofs.BuildSound
/-!
# C04 — circuit optimizations never change the computed function

`Req.compile ig cacheOn reqs outs` runs an arbitrary sequence of builder requests
(xor / and / not / or / eq / mux / adder over earlier results, the inputs and the two
constants) through the model of the real `CircuitBuilder` — constant folding, gate cache,
the algebraic XOR/AND rewrites — and then through `build` (removal of unused gates, final
renumbering).  `Req.literal` executes the same requests on Booleans with no simplification.
The theorems say the two agree for **every** request sequence, every input, with the cache
on or off; no bound on lengths or sizes.
-/
namespace GV
open Builder Req

theorem okPanic_sem (b : Builder) (inp : List Bool) : okPanicWires.map (b.sem inp) = okPanicBits := by
  simp only [okPanicWires, okPanicBits, List.map_cons, List.map_append, List.map_replicate, List.map_nil, sem_zero,
    sem_one]

theorem okPanic_lt {b : Builder} (hb : WF b) : ∀ r, r ∈ okPanicWires → r < b.counter := by
  intro r hr
  have := hb.two_le_counter
  simp only [okPanicWires, List.mem_cons, List.mem_append, List.mem_replicate, List.mem_nil_iff, or_false] at hr
  rcases hr with (rfl | ⟨-, rfl⟩ | rfl) | ⟨-, rfl⟩ <;> omega

theorem filterMap_lt {rs outs : List Nat} {n : Nat} (h : ∀ w, w ∈ rs → w < n) :
    ∀ r, r ∈ outs.filterMap (rs[·]?) → r < n := by
  intro r hr
  simp only [List.mem_filterMap] at hr
  obtain ⟨o, _, ho⟩ := hr
  exact h r (List.mem_of_getElem? ho)

theorem filterMap_vals {rs : List Nat} {vs : List Bool} {f : Nat → Bool} (h : rs.map f = vs)
    (outs : List Nat) : (outs.filterMap (rs[·]?)).map f = outs.filterMap (vs[·]?) := by
  subst h
  rw [List.map_filterMap]
  exact congrArg (List.filterMap · outs) (funext fun o => List.getElem?_map.symm)

/-- **C04, main statement.** For any request sequence the built circuit computes, on every
input of the declared shape, the 161 bits of the untouched panic record followed by the
literal (unsimplified) value of every requested output. -/
theorem C04_requests (ig : List Nat) (cacheOn : Bool) (reqs : List Req) (outs : List Nat)
    (ins : List (List Bool)) (hpos : 0 < ig.sum) (hs : Circuit.shapeOk ig ins = true) :
    (Req.compile ig cacheOn reqs outs).eval? ins =
      some (okPanicBits ++ outs.filterMap ((literal reqs ins.flatten)[·]?)) := by
  have hinv := run_inv ig cacheOn reqs
  rw [compile_eq, build_sound _ ig okPanicWires _ ⟨hinv.wf, hinv.shift, hpos, fun r hr =>
    (List.mem_append.mp hr).elim (filterMap_lt hinv.res.lt r) (okPanic_lt hinv.wf r)⟩ ins hs]
  have hi : ins.flatten.length + 2 = (run ig cacheOn reqs).1.shift := by
    rw [Circuit.flatten_length_of_shapeOk hs, hinv.shift]
  rw [List.map_append, okPanic_sem, filterMap_vals (hinv.res.sem ins.flatten hi)]

/-- **C04, consequence.** Gate de-duplication on or off: functionally identical circuits. -/
theorem C04_dedup_irrelevant (ig : List Nat) (reqs : List Req) (outs : List Nat)
    (ins : List (List Bool)) (hpos : 0 < ig.sum) (hs : Circuit.shapeOk ig ins = true) :
    (Req.compile ig true reqs outs).eval? ins = (Req.compile ig false reqs outs).eval? ins := by
  rw [C04_requests ig true reqs outs ins hpos hs, C04_requests ig false reqs outs ins hpos hs]

/-- Every wire handed back by `push_xor` computes the XOR of its operands, whatever rewrite
fired, and the builder invariant is kept (any fuel, i.e. also for the real recursion). -/
theorem C04_push_xor (fuel : Nat) (b : Builder) (x y : Nat) (hb : WF b)
    (hx : x < b.counter) (hy : y < b.counter) :
    WF (pushXor fuel b x y).2 ∧ Ext b (pushXor fuel b x y).2 ∧
    (pushXor fuel b x y).1 < (pushXor fuel b x y).2.counter ∧
    ∀ inp, inp.length + 2 = b.shift →
      (pushXor fuel b x y).2.sem inp (pushXor fuel b x y).1 = (b.sem inp x ^^ b.sem inp y) :=
  pushXor_post fuel b x y hb hx hy

/-- Same for `push_and`. -/
theorem C04_push_and (fuel xfuel : Nat) (b : Builder) (x y : Nat) (hb : WF b)
    (hx : x < b.counter) (hy : y < b.counter) :
    WF (pushAnd fuel xfuel b x y).2 ∧ Ext b (pushAnd fuel xfuel b x y).2 ∧
    (pushAnd fuel xfuel b x y).1 < (pushAnd fuel xfuel b x y).2.counter ∧
    ∀ inp, inp.length + 2 = b.shift →
      (pushAnd fuel xfuel b x y).2.sem inp (pushAnd fuel xfuel b x y).1 = (b.sem inp x && b.sem inp y) :=
  pushAnd_post fuel xfuel b x y hb hx hy

/-- `build` (removal of unused gates + final renumbering) preserves every requested wire, for
any well-formed builder state — in particular for the states `compile.rs` produces. -/
theorem C04_build (b : Builder) (ig pw outs : List Nat) (hb : WF b)
    (hshift : b.shift = ig.sum + 2) (hpos : 0 < ig.sum)
    (hroots : ∀ r, r ∈ outs ++ pw → r < b.counter)
    (ins : List (List Bool)) (hs : Circuit.shapeOk ig ins = true) :
    (b.build ig pw outs).eval? ins = some ((pw ++ outs).map (b.sem ins.flatten)) :=
  build_sound b ig pw outs ⟨hb, hshift, hpos, hroots⟩ ins hs

/-! ### non-vacuity and sanity: concrete request sequences -/

/-- a sequence that exercises XOR-of-XOR cancellation, AND factoring and a mux -/
def demoReqs : List Req :=
  [.xor 2 3, .xor 2 4, .xor 5 6, .and 2 3, .and 2 4, .xor 8 9, .mux 2 3 4, .adder 2 3 4, .not 7]

example : (literal demoReqs [true, false, true]).length = 15 := by decide

example :
    (Req.compile [1, 2] true demoReqs [7, 10, 11, 12, 13, 14]).eval? [[true], [false, true]] =
      some (okPanicBits ++ [true, true, false, false, true, false]) := by
  rw [C04_requests _ _ _ _ _ (by decide) (by decide)]
  decide +kernel

end GV
