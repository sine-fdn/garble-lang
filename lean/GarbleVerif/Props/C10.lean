import GarbleVerif.Proofs.ConvertSound
import GarbleVerif.Proofs.ConvertValid
/-!
# C10 — the register-based circuit is equivalent to the SSA circuit and safe to execute

`Reg.convert` is the transliteration of `RegisterAllocator::convert_circuit`
(`From<&SsaCircuit> for register_circuit::Circuit`). For **every** SSA circuit that passes
`validate` — any gate list, repeated operands, outputs that are inputs or repeated, unused
gates and inputs, any fan-out — and every input of the declared shape:
-/
namespace GV
open Reg Reg.RCircuit

/-- **C10, main statement.** The conversion never panics; the converted circuit loads every
party's inputs in order, reports the same number of ANDs, declares at most `wires_len`
registers, and its *strict* evaluation (which fails on any read of a register that has not
been written, on any register `≥ max_reg_count` and on any missing input) returns exactly
the outputs of the SSA circuit. -/
theorem C10_equiv (c : Circuit) (hv : c.validate = .ok ()) :
    ∃ r, convert c = some r ∧
      r.inputRegs = c.inputGates ∧
      r.insts.take c.totalInputs = inputInsts c.inputGates 0 0 ∧
      r.andOps = c.andGates ∧
      r.maxRegCount ≤ c.wiresLen ∧
      ∀ ins, Circuit.shapeOk c.inputGates ins = true → r.eval? ins = c.eval? ins := by
  obtain ⟨r, em, hconv, hir, hins, _, _, hand, hmax, _, heq⟩ := convert_spec c hv
  refine ⟨r, hconv, hir, ?_, hand, hmax, heq⟩
  rw [hins]
  exact List.take_left' (inputInsts_length ..)

/-- **the converted circuit passes its own validation** (`register_circuit::Circuit::validate`): some party has an
input bit, there are outputs, every register index is below the declared count, every `Input` instruction sits at
the position of the register it writes and reads an existing input bit, no instruction reads a register that has
not been written, every output register has been written, and the instruction count is within `MAX_GATES` -/
theorem C10_valid (c : Circuit) (hv : c.validate = .ok ()) :
    ∃ r, convert c = some r ∧ r.validate = .ok () := by
  obtain ⟨r, em, hconv, hir, hins, heml, hemn, _, _, houtl, heq⟩ := convert_spec c hv
  obtain ⟨_, _, hone, _, hsz⟩ := Circuit.validate_ok hv
  refine ⟨r, hconv, ?_⟩
  -- `r` has a successful strict run: on the all-false input `c` evaluates, and `r` agrees with `c`
  let ins0 : List (List Bool) := c.inputGates.map fun n => List.replicate n false
  have hs0 : Circuit.shapeOk c.inputGates ins0 = true := by
    simp [Circuit.shapeOk, ins0, List.map_map, Function.comp_def]
  obtain ⟨_, out, _, _, _, _, hev⟩ := Circuit.eval?_of_validate hv hs0
  refine validate_of_eval? (ins := ins0) ((heq ins0 hs0).trans hev) ?_
    (hir ▸ all_zero_false c.inputGates (totalInputs_pos c hv)) ?_ ?_
  · -- the `Input` instructions come first, the `j`-th writing register `j`; no other is an `Input`
    intro j inst hj hni
    rw [hins] at hj
    by_cases hjl : j < (inputInsts c.inputGates 0 0).length
    · rw [List.getElem?_append_left hjl] at hj
      exact (inputInsts_getElem? ins0 c.inputGates 0 0 j inst (eq_of_beq hs0) hj).1.trans (Nat.zero_add j)
    · rw [List.getElem?_append_right (Nat.le_of_not_lt hjl)] at hj
      exact absurd (hemn inst (List.mem_of_getElem? hj)) hni
  · intro h
    rw [h] at houtl
    exact hone (List.eq_nil_of_length_eq_zero houtl.symm)
  · rw [hins, List.length_append, inputInsts_length, heml]
    exact Nat.le_trans (Nat.le_add_right ..) hsz

/-! ### non-vacuity -/

/-- the unit test of the repository (`convert_ssa_to_register`), as an instance of the model -/
example :
    convert ⟨[1, 2], [.xor 0 1, .and 0 2, .xor 3 4, .and 4 5], [5, 6]⟩ =
      some ⟨[1, 2],
        [⟨0, .input 0 0⟩, ⟨1, .input 1 0⟩, ⟨2, .input 1 1⟩, ⟨1, .xor 0 1⟩, ⟨0, .and 0 2⟩, ⟨1, .xor 1 0⟩,
          ⟨0, .and 0 1⟩], 3, [1, 0], 2⟩ := by
  decide +kernel

example : (⟨[1, 2], [.xor 0 1, .and 0 2, .xor 3 4, .and 4 5], [5, 6]⟩ : Circuit).validate = .ok () := by rfl

end GV
