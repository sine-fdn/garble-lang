import GarbleVerif.Model.MatchSpec
import GarbleVerif.Proofs.MatchComplete
/-!
# C08 — match: the first matching arm decides; exhaustiveness

The specification side of C08, proved for all values, patterns and arm lists:

* `C08_first_arm` / `C08_skip_arm`: `evalArms` runs exactly the first arm whose pattern matches,
  with that pattern's bindings, and nothing of the arms before it;
* `C08_firstMatch_spec`: `firstMatch v pats = some i` iff arm `i` matches and no earlier arm does;
* `C08_literal_exact`, `C08_range_exact`: a literal pattern matches exactly its number, a range
  pattern exactly the numbers from its lower to its upper bound (both inclusive; the exclusive
  source form `a..b` is `a ..= b-1`);
* `C08_uncovered_sound`: when the reference procedure `uncovered` returns a value, no arm matches
  it — so every "accepts a non-exhaustive match" alarm of the check comes with a real
  counterexample.

* `C08_uncovered_complete`: when `uncovered` returns nothing, every well-typed value of the
  scrutinee's type is matched by some arm — the reference procedure decides exhaustiveness
  exactly (Proofs/MatchComplete.lean: every value has a representative that no pattern over the
  same constants can tell apart from it).

The exhaustiveness algorithm of `check.rs` itself is not modelled; its verdicts and its reported
missing cases are compared with this verified reference on every run.
-/
namespace GV
namespace Src

theorem C08_first_arm (fuel : Nat) (prog : Prog) (env binds : Env) (v : Val) (p : Pat) (e : Expr) (rest : Arms)
    (h : matchPat p v = some binds) :
    evalArms (fuel + 1) prog env v (.cons p e rest) =
      (match evalExpr fuel prog (binds ++ env) e with
       | .error err => .error err
       | .ok (r, env1) => .ok (r, restore env env1)) := by
  dsimp only [evalArms]
  simp only [h]
  cases evalExpr fuel prog (binds ++ env) e <;> rfl

theorem C08_skip_arm (fuel : Nat) (prog : Prog) (env : Env) (v : Val) (p : Pat) (e : Expr) (rest : Arms)
    (h : matchPat p v = none) :
    evalArms (fuel + 1) prog env v (.cons p e rest) = evalArms fuel prog env v rest := by
  dsimp only [evalArms]
  simp only [h]

theorem C08_firstMatch_spec (v : Val) (pats : List Pat) (i : Nat) :
    firstMatch v pats = some i ↔
      (∃ p, pats[i]? = some p ∧ (matchPat p v).isSome) ∧ ∀ j, j < i → ∀ q, pats[j]? = some q → matchPat q v = none := by
  rw [firstMatch_eq_findIdx?, List.findIdx?_eq_some_iff_getElem]
  constructor
  · rintro ⟨h, hi, hj⟩
    refine ⟨⟨_, List.getElem?_eq_getElem h, hi⟩, fun j hji q hq => ?_⟩
    obtain ⟨_, rfl⟩ := List.getElem?_eq_some_iff.mp hq
    exact Option.not_isSome_iff_eq_none.mp (hj j hji)
  · rintro ⟨⟨p, hp, hi⟩, hj⟩
    obtain ⟨h, rfl⟩ := List.getElem?_eq_some_iff.mp hp
    exact ⟨h, hi, fun j hji => Option.not_isSome_iff_eq_none.mpr (hj j hji _ (List.getElem?_eq_getElem _))⟩

theorem C08_literal_exact (n m : Int) : (matchPat (.int n) (.int m)).isSome ↔ n = m := by
  rw [matchPat_int_isSome, decide_eq_true_iff]

theorem C08_range_exact (lo hi m : Int) : (matchPat (.range lo hi) (.int m)).isSome ↔ lo ≤ m ∧ m ≤ hi := by
  rw [matchPat_range_isSome, decide_eq_true_iff]

theorem firstMatch_none (v : Val) (pats : List Pat) (h : firstMatch v pats = none) :
    ∀ p, p ∈ pats → matchPat p v = none :=
  (firstMatch_eq_none v pats).mp h

/-- the value `uncovered` returns is a counterexample to exhaustiveness: no arm matches it -/
theorem C08_uncovered_sound (ty : Ty) (pats : List Pat) (v : Val) (h : uncovered ty pats = some v) :
    ∀ p, p ∈ pats → matchPat p v = none := by
  unfold uncovered at h
  have := List.find?_some h
  exact firstMatch_none v pats (by simpa using this)

/-- **the reference procedure is exact**: it returns nothing exactly when the arms cover every
value of the scrutinee's type (patterns can compare an integer only with the constants they
mention, so a value and its representative are matched by the same patterns) -/
theorem C08_uncovered_complete (ty : Ty) (pats : List Pat) (h : uncovered ty pats = none) :
    ∀ v, v.hasType ty = true → ∃ p, p ∈ pats ∧ (matchPat p v).isSome = true :=
  uncovered_complete ty pats h

theorem C08_uncovered_exact (ty : Ty) (pats : List Pat) :
    uncovered ty pats = none ↔
      ∀ v, v ∈ tyReps (pats.flatMap patConsts) ty → ∃ p, p ∈ pats ∧ (matchPat p v).isSome = true :=
  uncovered_eq_none ty pats

/-- non-vacuity: an `i8` match with a hole at 5 -/
example : uncovered (.int .i8) [.range (-128) 4, .range 6 127] = some (.int 5) := by rfl

example : (uncovered (.int .i8) [.range (-128) 4, .range 5 127]).isNone = true := by rfl

end Src
end GV
