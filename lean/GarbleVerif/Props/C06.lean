import GarbleVerif.ExtractedSites
import GarbleVerif.Model.Builder
/-!
# C06 — compilation is deterministic

The models are Lean functions of (program, constants, options), so a modelled computation cannot
depend on a hash seed; what has to be shown is that the *Rust* code has no behaviour the models
abstract from. Three obligations:

1. `extracted_hashIterSites` (in `ExtractedSites`): the list of places where `/repo/src` iterates
   over a `HashMap`/`HashSet`, regenerated from the source on every run, equals the audited list,
   every entry of which is annotated with the reason why the order cannot reach the circuit.
2. For the one site inside modelled code (the condition cache of the panic record, a `HashSet`)
   the model keeps a list; `C06_cache_order_irrelevant_*` show that the emitted gates and the record
   depend on the *set* only.
3. The check compiles every program repeatedly in one process and in fresh processes (different
   `RandomState` seeds) and compares the circuits (exploration, not proof).
-/
namespace GV
open Builder

theorem contains_perm {l1 l2 : List Nat} (h : l1.Perm l2) (c : Nat) : l1.contains c = l2.contains c :=
  h.contains_eq

/-- `push_panic_if`: builder state and record wires depend only on the set of cached conditions -/
theorem C06_cache_order_irrelevant_push (b : Builder) (w : List Nat) (l1 l2 : List Nat) (h : l1.Perm l2)
    (cond reason l0 c0 l1' c1 : Nat) :
    (pushPanicIf b ⟨w, l1⟩ cond reason l0 c0 l1' c1).1.gates = (pushPanicIf b ⟨w, l2⟩ cond reason l0 c0 l1' c1).1.gates ∧
    (pushPanicIf b ⟨w, l1⟩ cond reason l0 c0 l1' c1).2.wires = (pushPanicIf b ⟨w, l2⟩ cond reason l0 c0 l1' c1).2.wires ∧
    (pushPanicIf b ⟨w, l1⟩ cond reason l0 c0 l1' c1).2.cache.Perm (pushPanicIf b ⟨w, l2⟩ cond reason l0 c0 l1' c1).2.cache := by
  simp only [pushPanicIf, contains_perm h cond]
  split
  · exact ⟨rfl, rfl, h⟩
  · exact ⟨rfl, rfl, List.Perm.cons _ h⟩

/-- `mux_panic`: the gates and the merged record do not depend on the order of either cache, and the
merged cache is the same set -/
theorem C06_cache_order_irrelevant_mux (b : Builder) (s : Nat) (wt wf : List Nat) (t1 t2 f1 f2 : List Nat)
    (ht : t1.Perm t2) (hf : f1.Perm f2) :
    (muxPanic b s ⟨wt, t1⟩ ⟨wf, f1⟩).1.gates = (muxPanic b s ⟨wt, t2⟩ ⟨wf, f2⟩).1.gates ∧
    (muxPanic b s ⟨wt, t1⟩ ⟨wf, f1⟩).2.wires = (muxPanic b s ⟨wt, t2⟩ ⟨wf, f2⟩).2.wires ∧
    ∀ c, c ∈ (muxPanic b s ⟨wt, t1⟩ ⟨wf, f1⟩).2.cache ↔ c ∈ (muxPanic b s ⟨wt, t2⟩ ⟨wf, f2⟩).2.cache := by
  refine ⟨rfl, rfl, ?_⟩
  intro c
  simp only [muxPanic, List.mem_filter, List.contains_iff_mem, ht.mem_iff, hf.mem_iff]

end GV
