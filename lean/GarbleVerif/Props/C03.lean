import GarbleVerif.Proofs.ArithMul
import GarbleVerif.Proofs.ArithDiv
import GarbleVerif.Proofs.ArithSMul
import GarbleVerif.Proofs.ArithShift
import GarbleVerif.Proofs.ArithConstMul
/-!
# C03 — integer operators and casts are bit-exact at every width

`Arith` says what the wiring of every operator computes on big-endian bit lists (tied to the
compiled circuits by the behavioural correspondence of `./check C03`). The theorems below
compare it with exact integer arithmetic (`toNat`, `toInt`) — **for every width `n ≥ 1`**, not
only 8/16/32/64, and all operand values.

Proved: `+` (unsigned, signed), `-` (unsigned, signed), unary `-`, `*` (unsigned: array multiplier;
signed: magnitudes multiplied, sign restored, overflow exactly when not representable), `/` and `%`
(unsigned: the restoring divider; signed: magnitudes divided, signs restored, `MIN / -1` excluded),
`<`/`>` (unsigned, signed), `==`/`!=`, `&`/`|`/`^`/`!`, every cast,
`<<` / `>>` (8, 16, 32, 64 bits: overflow ⇔ amount ≥ width, otherwise multiplication / floor division by
`2^amount`).
Multiplication by a literal (`constMul`: the operand is added `n` times, each addition checked; for a negative
literal the sum is negated): exact for unsigned operands and for positive literals; for a negative literal `-n` the
flag is set exactly when `n·y` is not strictly inside `(-2^w, 2^w)` — so the product `MIN` (`n·y = 2^w`) is reported as
an overflow although it is representable. That is the recorded finding of C03; `C03_constMul_neg_finding` states it
exactly: the flag is spurious *only* there.
-/
namespace GV
namespace Arith

/-- unsigned `+`: exact sum unless the flag is set; flag ⇔ the sum needs more than `n` bits -/
theorem C03_add_unsigned (x y : List Bool) (h : x.length = y.length) :
    ((add x y).2.1 = true ↔ 2 ^ x.length ≤ toNat x + toNat y) ∧
    ((add x y).2.1 = false → toNat (add x y).1 = toNat x + toNat y) ∧
    (add x y).1.length = x.length :=
  ⟨add_overflow_unsigned x y h, add_exact x y h, add_length x y h⟩

/-- signed `+` on `n + 1` bits -/
theorem C03_add_signed (a b : Bool) (x y : List Bool) (h : x.length = y.length) :
    let r := add (a :: x) (b :: y)
    ((r.2.1 ^^ r.2.2) = false → toInt r.1 = toInt (a :: x) + toInt (b :: y)) ∧
    ((r.2.1 ^^ r.2.2) = true ↔
      (toInt (a :: x) + toInt (b :: y) < -(2 : Int) ^ x.length ∨
        (2 : Int) ^ x.length ≤ toInt (a :: x) + toInt (b :: y))) :=
  add_signed a b x y h

/-- unsigned `-` -/
theorem C03_sub_unsigned (x y : List Bool) (h : x.length = y.length) :
    ((sub x y false).2 = true ↔ toNat x < toNat y) ∧
    ((sub x y false).2 = false → toNat (sub x y false).1 = toNat x - toNat y) ∧
    (sub x y false).1.length = x.length :=
  sub_unsigned x y h

/-- signed `-` on `n + 1` bits -/
theorem C03_sub_signed (a b : Bool) (x y : List Bool) (h : x.length = y.length) :
    let r := sub (a :: x) (b :: y) true
    (r.2 = true ↔ (toInt (a :: x) - toInt (b :: y) < -(2 : Int) ^ x.length ∨
      (2 : Int) ^ x.length ≤ toInt (a :: x) - toInt (b :: y))) ∧
    (r.2 = false → toInt r.1 = toInt (a :: x) - toInt (b :: y)) ∧
    r.1.length = x.length + 1 :=
  sub_signed a b x y h

/-- unary `-`: panics exactly on the minimum value, otherwise the exact negation -/
theorem C03_neg (a : Bool) (rest : List Bool) :
    let r := negChecked (a :: rest)
    (r.2 = true ↔ toInt (a :: rest) = -(2 : Int) ^ rest.length) ∧
    (r.2 = false → toInt r.1 = - toInt (a :: rest)) :=
  negChecked_spec a rest

/-- unsigned `*` -/
theorem C03_mul_unsigned (x y : List Bool) (h : x.length = y.length) (hn : 0 < x.length) :
    let r := mul x y false
    r.1.length = x.length ∧
    (r.2 = false → toNat r.1 = toNat x * toNat y) ∧
    (r.2 = true ↔ 2 ^ x.length ≤ toNat x * toNat y) :=
  mul_unsigned x y h hn

/-- `<` and `>` on unsigned operands -/
theorem C03_cmp_unsigned (x y : List Bool) (h : x.length = y.length) :
    comparator x false y false = (decide (toNat x < toNat y), decide (toNat y < toNat x)) :=
  comparator_unsigned x y h

/-- `<` and `>` on signed operands -/
theorem C03_cmp_signed (a b : Bool) (x y : List Bool) (h : x.length = y.length) :
    comparator (a :: x) true (b :: y) true =
      (decide (toInt (a :: x) < toInt (b :: y)), decide (toInt (b :: y) < toInt (a :: x))) :=
  comparator_signed a b x y h

/-- `==` (and `!=` as its negation) -/
theorem C03_eq (x y : List Bool) (h : x.length = y.length) : eqBits x y = true ↔ x = y :=
  eqBits_iff x y h

/-- every cast: target width, congruent to the source value modulo `2^k`, never a panic -/
theorem C03_cast (a : Bool) (rest : List Bool) (s : Bool) (k : Nat) :
    (cast (a :: rest) s k).length = k ∧
    ∃ q : Int, valOf s (a :: rest) = (toNat (cast (a :: rest) s k) : Int) + q * (2 : Int) ^ k :=
  ⟨cast_length _ s k (by simp), cast_spec a rest s k⟩

/-- unsigned `/` and `%`, all widths: for a non-zero divisor the restoring divider returns the Euclidean
quotient and remainder (a zero divisor is reported as `DivByZero` by `binop`) -/
theorem C03_udiv (x y : List Bool) (h : x.length = y.length) (hy : 0 < toNat y) :
    toNat x = toNat (udiv x y).1 * toNat y + toNat (udiv x y).2 ∧ toNat (udiv x y).2 < toNat y ∧
    toNat (udiv x y).1 = toNat x / toNat y ∧ toNat (udiv x y).2 = toNat x % toNat y :=
  ⟨(udiv_spec x y h hy).1, (udiv_spec x y h hy).2.1, udiv_div_mod x y h hy⟩

/-- signed `/` and `%` on `n + 1` bits: quotient rounded towards zero, remainder with the sign of the
dividend, for every non-zero divisor except `MIN / -1` (which `binop` reports as `Overflow`) -/
theorem C03_sdiv (a b : Bool) (x y : List Bool) (h : x.length = y.length) (hy : toInt (b :: y) ≠ 0)
    (hmin : ¬ (toInt (a :: x) = -(2 : Int) ^ x.length ∧ toInt (b :: y) = -1)) :
    toInt (sdiv (a :: x) (b :: y)).1 = Int.tdiv (toInt (a :: x)) (toInt (b :: y)) ∧
    toInt (sdiv (a :: x) (b :: y)).2 = Int.tmod (toInt (a :: x)) (toInt (b :: y)) :=
  sdiv_spec a b x y h hy hmin

/-- signed `*` on `n + 1` bits: exact product unless the flag is set; flag ⇔ the exact product is outside
`[-2^n, 2^n)` (so `MIN * 1`, `-1 * MIN`… are handled exactly: `-2^n` is representable, `2^n` is not) -/
theorem C03_mul_signed (a b : Bool) (x y : List Bool) (h : x.length = y.length) :
    let r := mul (a :: x) (b :: y) true
    (r.2 = false → toInt r.1 = toInt (a :: x) * toInt (b :: y)) ∧
    (r.2 = true ↔ (toInt (a :: x) * toInt (b :: y) < -(2 : Int) ^ x.length ∨
      (2 : Int) ^ x.length ≤ toInt (a :: x) * toInt (b :: y))) :=
  mul_signed a b x y h

/-- `<<` and `>>` at the four integer widths: the overflow flag is set exactly when the amount is at least the
width; otherwise `<<` multiplies by `2^amount` modulo `2^n` and `>>` divides by `2^amount` rounding down
(logical shift on unsigned, arithmetic shift on signed operands) -/
theorem C03_shift (left sx : Bool) (x amt : List Bool) (hx : x.length ∈ [8, 16, 32, 64]) (ha : amt.length = 8) :
    ((shift left sx x amt).2 = true ↔ x.length ≤ toNat amt) ∧
    (toNat amt < x.length →
      (left = true → toNat (shift left sx x amt).1 = (toNat x * 2 ^ toNat amt) % 2 ^ x.length) ∧
      (left = false → valOf sx (shift left sx x amt).1 = valOf sx x / (2 : Int) ^ toNat amt)) :=
  shift_spec left sx x amt hx ha

/-- `x * n` for an unsigned `x` and a literal `n ≥ 1` compiled as repeated addition -/
theorem C03_constMul_unsigned (y : List Bool) (n : Nat) (hn : 1 ≤ n) :
    let r := constMul y false n false
    r.1.length = y.length ∧ (r.2 = false → toNat r.1 = n * toNat y) ∧ (r.2 = true ↔ 2 ^ y.length ≤ n * toNat y) :=
  constMul_unsigned y n hn

/-- `x * n` for a signed `x` and a positive literal -/
theorem C03_constMul_signed (b : Bool) (yr : List Bool) (n : Nat) (hn : 1 ≤ n) :
    let r := constMul (b :: yr) true n false
    r.1.length = yr.length + 1 ∧
    (r.2 = false → toInt r.1 = (n : Int) * toInt (b :: yr)) ∧
    (r.2 = true ↔ ((n : Int) * toInt (b :: yr) < -(2 : Int) ^ yr.length ∨
      (2 : Int) ^ yr.length ≤ (n : Int) * toInt (b :: yr))) :=
  constMul_signed_pos b yr n hn

/-- `x * -n`: exact unless flagged; flagged exactly when `n·x` is not strictly inside `(-2^w, 2^w)` -/
theorem C03_constMul_neg (b : Bool) (yr : List Bool) (n : Nat) (hn : 1 ≤ n) :
    let r := constMul (b :: yr) true n true
    (r.2 = false → toInt r.1 = -((n : Int) * toInt (b :: yr))) ∧
    (r.2 = true ↔ ((n : Int) * toInt (b :: yr) ≤ -(2 : Int) ^ yr.length ∨
      (2 : Int) ^ yr.length ≤ (n : Int) * toInt (b :: yr))) :=
  constMul_signed_neg b yr n hn

/-- the recorded finding, exactly: the flag is set although the product is representable iff the product is `MIN` -/
theorem C03_constMul_neg_finding (b : Bool) (yr : List Bool) (n : Nat) (hn : 1 ≤ n) :
    let r := constMul (b :: yr) true n true
    let prod := -((n : Int) * toInt (b :: yr))
    (r.2 = true ∧ -(2 : Int) ^ yr.length ≤ prod ∧ prod < (2 : Int) ^ yr.length) ↔ prod = -(2 : Int) ^ yr.length :=
  constMul_neg_spurious b yr n hn

/-! ### non-vacuity / sanity on concrete operands (8 bits; the signed division on 4) -/

/-- `64i8 * -2`: the product -128 is representable, the compiled code reports an overflow (the finding) -/
example : (constMul [false, true, false, false, false, false, false, false] true 2 true).2 = true := by decide +kernel

example : toInt [true, false, false, false, false, false, false, false] = -128 := by decide
example : (negChecked [true, false, false, false, false, false, false, false]).2 = true := by decide
example : (mul [false, true, false, false, false, false, false, false]
    [false, false, false, false, false, false, true, false] true).2 = true := by decide +kernel   -- 64 * 2 (signed)
/-- `-7 / 2 = -3`, `-7 % 2 = -1` on 4 bits: the hypotheses of `C03_sdiv` are satisfiable -/
example : toInt [true, false, false, true] = -7 ∧ toInt [false, false, true, false] = 2 ∧
    toInt (sdiv [true, false, false, true] [false, false, true, false]).1 = -3 ∧
    toInt (sdiv [true, false, false, true] [false, false, true, false]).2 = -1 := by decide +kernel
example : (binop .div true true true [true, false, false, false, false, false, false, false]
    [true, true, true, true, true, true, true, true]).2 =
    [(false, .divByZero), (true, .overflow)] := by decide +kernel                      -- MIN / -1

end Arith
end GV
