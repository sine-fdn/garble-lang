import GarbleVerif.Proofs.BitStatic
import GarbleVerif.Proofs.BitMain
/-!
# C17 / C05 — a program the compiler model types cannot go wrong

`Bit.fnTyped prog d` runs the model of the compiler (`Model/BitSem.lean`) on the body of `d` with all-zero wires for the
parameters and asks for wires of the declared return type. `Proofs/BitStatic.lean` shows that this verdict does not depend
on the wires: the inlined call is inside the model, with the same result type, for all argument wires of the parameter types
(`typed_call`, from `callAt_static`); `Proofs/BitMain.lean` that a call inside the model refines the source semantics
(`callAt_sound`). Together:

* `C17_typed_never_stuck`: a function that `fnTyped` accepts, called on ANY argument values of its parameter types, never
  gets stuck in the source semantics (none of the rule violations of `Props/C17.lean` can happen at run time), with any
  fuel;
* `C17_typed_result_type`: and if it returns, the value has the declared return type.

This is what the second stream of the C17 check rests on: every program `check.rs` accepts must be typed by `Bit.progTyped`
(applied to the tree `check.rs` itself built). The converse (whatever `fnTyped` rejects is ill-typed) is not a theorem:
the model excludes for-join loops and multiplication by a negative literal, which the check filters out syntactically.
-/
namespace GV
namespace Bit
open Src

/-- the argument values have the parameter types -/
def argsTyped : List (String × Ty) → List Val → Bool
  | [], [] => true
  | (_, t) :: ps, v :: vs => v.hasType t && argsTyped ps vs
  | _, _ => false

/-- their encodings, one party per parameter -/
def encodeArgs : List (String × Ty) → List Val → List (VTy × List Bool)
  | (_, t) :: ps, v :: vs => (VTy.ofTy t, v.encode t) :: encodeArgs ps vs
  | _, _ => []

theorem encodeArgs_spec : ∀ (ps : List (String × Ty)) (vs : List Val), argsTyped ps vs = true →
    ArgsRel vs (encodeArgs ps vs) ∧ (encodeArgs ps vs).map (·.1) = ps.map (fun xt => VTy.ofTy xt.2) ∧ ArgsWF (encodeArgs ps vs)
  | [], [], _ => ⟨trivial, rfl, fun _ ha => nomatch ha⟩
  | [], _ :: _, h => nomatch h
  | _ :: _, [], h => nomatch h
  | (x, t) :: ps, v :: vs, h => by
    obtain ⟨hv, h⟩ := Bool.and_eq_true_iff.mp h
    obtain ⟨ih1, ih2, ih3⟩ := encodeArgs_spec ps vs h
    exact ⟨⟨VRel.of_hasType hv, ih1⟩, congrArg (VTy.ofTy t :: ·) ih2,
      List.forall_mem_cons.mpr ⟨(Val.encode_length v t hv).trans (congrArg Ty.size (VTy.toTy_ofTy t).symm), ih3⟩⟩

/-- **a typed function never gets stuck**, whatever well-typed arguments it is called on -/
theorem C17_typed_never_stuck (prog : Prog) (f : String) (d : FnDef) (hfn : prog.fn? f = some d)
    (hty : fnTyped prog d = true) (vs : List Val) (hvs : argsTyped d.params vs = true) (fuel : Nat) :
    ∀ why, runFn fuel prog f vs ≠ .error (.stuck why) := by
  obtain ⟨hrel, htys, hwf⟩ := encodeArgs_spec d.params vs hvs
  obtain ⟨bs, p, hcall⟩ := typed_call prog f d hfn hty _ htys hwf
  have := callAt_sound prog (prog.fns.length + 2) fuel f vs _ _ _ _ hrel hcall
  intro why hw
  rw [hw] at this
  exact this

/-- and what it returns has the declared return type -/
theorem C17_typed_result_type (prog : Prog) (f : String) (d : FnDef) (hfn : prog.fn? f = some d)
    (hty : fnTyped prog d = true) (vs : List Val) (hvs : argsTyped d.params vs = true) (fuel : Nat) (r : Val)
    (hr : runFn fuel prog f vs = .ok r) : r.hasType d.ret = true := by
  obtain ⟨hrel, htys, hwf⟩ := encodeArgs_spec d.params vs hvs
  obtain ⟨bs, p, hcall⟩ := typed_call prog f d hfn hty _ htys hwf
  have := callAt_sound prog (prog.fns.length + 2) fuel f vs _ _ _ _ hrel hcall
  rw [hr] at this
  have h2 := (VRel.hasType_encode this.2).1
  rwa [VTy.toTy_ofTy] at h2

/-- the verdict the check computes (`progTyped`: every function of the program is typed) gives both for every function
that can be called by its name -/
theorem C17_progTyped_sound (prog : Prog) (h : progTyped prog = true) (f : String) (d : FnDef) (hfn : prog.fn? f = some d)
    (vs : List Val) (hvs : argsTyped d.params vs = true) (fuel : Nat) :
    (∀ why, runFn fuel prog f vs ≠ .error (.stuck why)) ∧ (∀ r, runFn fuel prog f vs = .ok r → r.hasType d.ret = true) := by
  have hmem : d ∈ prog.fns := List.mem_of_find?_eq_some hfn
  have hty : fnTyped prog d = true := by
    unfold progTyped at h
    exact List.all_eq_true.mp h d hmem
  exact ⟨C17_typed_never_stuck prog f d hfn hty vs hvs fuel, fun r hr => C17_typed_result_type prog f d hfn hty vs hvs fuel r hr⟩

/-! ### non-vacuity: `fn inc(a: u8) -> u8 { a + 1u8 }` is typed, `fn bad(a: u8) -> u8 { a + true }` is not -/

def C17_inc : FnDef := ⟨"inc", [("a", .int .u8)], .int .u8, .cons (.expr (.bin .add (.int .u8) (.var "a") (.int 1 .u8))) .nil⟩
def C17_bad : FnDef := ⟨"bad", [("a", .int .u8)], .int .u8, .cons (.expr (.bin .add (.int .u8) (.var "a") (.bool true))) .nil⟩

example : fnTyped ⟨[C17_inc], [], [], []⟩ C17_inc = true := by decide
example : fnTyped ⟨[C17_bad], [], [], []⟩ C17_bad = false := by decide
example : argsTyped C17_inc.params [.int 255] = true := by decide

end Bit
end GV
