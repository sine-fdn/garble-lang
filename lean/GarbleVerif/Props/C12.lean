import GarbleVerif.Model.Consts
import GarbleVerif.Proofs.Wrap
import GarbleVerif.Proofs.BitMain
/-!
# C12 — constant parameters

Theorems about the specification `Src.evalC` of constant expressions (wrapping arithmetic in the
constant's own type):

* `C12_in_range`: with supplied values and earlier constants in the range of the type, every
  constant is in the range of its type;
* `C12_linear_wrap_once`: for an expression built from `+` and `-` only, wrapping after every
  operation gives the same value as computing over the integers and wrapping once at the end —
  which is why an implementation that computes in 64 bits and truncates to the type at the end
  (compile.rs) agrees with the specification on such expressions, for every width;
* `C12_minmax_differs`: for `min` / `max` over a wrapped operand the two differ (the concrete
  instance recorded as a finding: `max(100u8 + 200u8, 50u8)`).

Program level (`C12_program`, for the fragment of Model/BitSem.lean): a function compiled with the constants of the
program as wires of the outermost scope — each the encoding of the constant's value in its declared type
(`Bit.constEnv`) — returns what the source semantics return when the constants are variables bound to those values
(`runFn` evaluates the body in `parameters ++ constants`); and a reference to such a variable evaluates to the
value like the literal does (`C12_const_reads_value`, `C12_literal_is_value`). The equivalence with the program
text in which the values are written out — which also goes through the parser, the checker's inference for
unsuffixed numbers and `compile_with_constants`' own bookkeeping (array sizes, missing / mistyped constants) — is
compared on generated programs on every run.
-/
namespace GV
namespace Src

/-- all literals of the expression are values of the type -/
def CExpr.litsIn (k : IntTy) : CExpr → Prop
  | .lit n => k.lo ≤ n ∧ n ≤ k.hi
  | .ext _ _ => True
  | .ident _ => True
  | .add a b => a.litsIn k ∧ b.litsIn k
  | .sub a b => a.litsIn k ∧ b.litsIn k
  | .max a b => a.litsIn k ∧ b.litsIn k
  | .min a b => a.litsIn k ∧ b.litsIn k

/-- every constant lies in the range of its type -/
theorem C12_in_range (k : IntTy) (env : CEnv)
    (hext : ∀ p n, k.lo ≤ env.ext p n ∧ env.ext p n ≤ k.hi)
    (hnamed : ∀ n, k.lo ≤ env.named n ∧ env.named n ≤ k.hi) :
    ∀ e : CExpr, e.litsIn k → k.lo ≤ evalC k env e ∧ evalC k env e ≤ k.hi := by
  intro e
  induction e with
  | lit n => intro h; exact h
  | ext p n => intro _; exact hext p n
  | ident n => intro _; exact hnamed n
  | add a b _ _ => intro _; exact wrapTo_range k _
  | sub a b _ _ => intro _; exact wrapTo_range k _
  | max a b iha ihb =>
    intro h
    exact ⟨Int.le_trans (iha h.1).1 (Int.le_max_left ..), Int.max_le.mpr ⟨(iha h.1).2, (ihb h.2).2⟩⟩
  | min a b iha ihb =>
    intro h
    exact ⟨Int.le_min.mpr ⟨(iha h.1).1, (ihb h.2).1⟩, Int.le_trans (Int.min_le_left ..) (iha h.1).2⟩

theorem linear_emod (k : IntTy) (env : CEnv) : ∀ e : CExpr, e.linear = true →
    evalC k env e % (2 : Int) ^ k.bits = exact env e % (2 : Int) ^ k.bits := by
  intro e
  induction e with
  | lit n => intro _; rfl
  | ext p n => intro _; rfl
  | ident n => intro _; rfl
  | add a b iha ihb =>
    intro h
    simp only [CExpr.linear, Bool.and_eq_true] at h
    simp only [evalC, exact, wrapTo_emod]
    rw [Int.add_emod, iha h.1, ihb h.2, ← Int.add_emod]
  | sub a b iha ihb =>
    intro h
    simp only [CExpr.linear, Bool.and_eq_true] at h
    simp only [evalC, exact, wrapTo_emod]
    rw [Int.sub_emod, iha h.1, ihb h.2, ← Int.sub_emod]
  | max a b _ _ => intro h; simp [CExpr.linear] at h
  | min a b _ _ => intro h; simp [CExpr.linear] at h

/-- for `+` / `-` expressions, wrapping after every operation = computing exactly and wrapping once -/
theorem C12_linear_wrap_once (k : IntTy) (env : CEnv) (e : CExpr) (h : e.linear = true) :
    wrapTo k (evalC k env e) = wrapTo k (exact env e) :=
  wrapTo_eq_of_emod_eq k _ _ (linear_emod k env e h)

/-- under `min` / `max` they differ: `max(100u8 + 200u8, 50u8)` is 50, not 300 mod 256 = 44 -/
theorem C12_minmax_differs :
    evalC .u8 ⟨fun _ _ => 0, fun _ => 0⟩ (.max (.add (.lit 100) (.lit 200)) (.lit 50)) = 50 ∧
    wrapTo .u8 (exact ⟨fun _ _ => 0, fun _ => 0⟩ (.max (.add (.lit 100) (.lit 200)) (.lit 50))) = 44 := by
  decide

/-- a reference to a constant reads its value -/
theorem C12_const_reads_value (fuel : Nat) (prog : Prog) (env : Env) (c : String) (v : Val) (h : env.get? c = some v) :
    evalExpr (fuel + 1) prog env (.var c) = .ok (v, env) := by
  dsimp only [evalExpr]
  rw [h]

/-- the number written out evaluates to the same value as the constant read -/
theorem C12_literal_is_value (fuel : Nat) (prog : Prog) (env : Env) (n : Int) (k : IntTy) :
    evalExpr (fuel + 1) prog env (.int n k) = .ok (.int n, env) :=
  Bit.evalExpr_int fuel prog env n k

end Src

namespace Bit
open Src

/-- **constants as wires = constants as values**: for every function of a program with constants (typed, each value
of its type), every inlining depth, all arguments and every fuel, the compiled body — parameters bound to the
argument wires, constants to the encodings of their values — returns the encoding of what the source semantics
return with the constants bound to their values, or records exactly the first failure -/
theorem C12_program (prog : Prog) (depth fuel : Nat) (fn : String) (vals : List Val) (argsB : List (VTy × List Bool))
    (t : VTy) (bits : List Bool) (p : P) (hargs : ArgsRel vals argsB)
    (h : callAt prog (depth + 1) fn argsB = some (t, bits, p)) :
    match runFn fuel prog fn vals with
    | .ok v => p = none ∧ v.hasType t.toTy = true ∧ bits = v.encode t.toTy
    | .error (.panic k) => p = some k
    | .error (.stuck _) => False
    | .error .fuel => True := by
  have hs := callAt_sound prog (depth + 1) fuel fn vals argsB t bits p hargs h
  cases hr : runFn fuel prog fn vals with
  | ok v =>
    rw [hr] at hs
    exact ⟨hs.1, hs.2.hasType_encode.1, hs.2.hasType_encode.2⟩
  | error er =>
    rw [hr] at hs
    cases er with
    | panic k => exact hs
    | stuck w => exact hs
    | fuel => trivial

/-- non-vacuity: `const K: u8 = 200;  fn f(a: u8) -> u8 { a + K }` — with `a = 100` the addition overflows, with
`a = 5` it gives 205 -/
def C12_example_prog : Prog :=
  { fns := [⟨"f", [("a", .int .u8)], .int .u8, .cons (.expr (.bin .add (.int .u8) (.var "a") (.var "K"))) .nil⟩],
    consts := [("K", .int 200)], constTys := [("K", .int .u8)] }

example : callAt C12_example_prog 1 "f" [(.s (.int .u8), enc .u8 5)] = some (.s (.int .u8), enc .u8 205, none) := by rfl
example : (callAt C12_example_prog 1 "f" [(.s (.int .u8), enc .u8 100)]).map (·.2.2) = some (some .overflow) := by rfl

end Bit
end GV